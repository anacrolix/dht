/- Cancellations under the discipline of /repo/ratelimit_serial.go (`RHist`, Lemmas/C20RepoDefs): the step relation
and the books carry over from `CHist`; `Spacing` / `RHist.Fresh` say which cancellations credit at most their token. -/
import DhtVerif.Lemmas.C20RepoDefs
import DhtVerif.Lemmas.C20Cancel
namespace Dht

theorem RHist.run_cons (r : RHist) (e : CEv) (h : List CEv) : r.run (e :: h) = (r.step e).run h := rfl

theorem RHist.step_shape (r : RHist) (e : CEv) (hinf : r.s.c.b.inf = false) (hp : 0 < r.s.c.b.p)
    (hl : r.s.c.b.last ≤ r.s.now) (ht : e.timely = true) :
    CHist.Step r.s e (r.step e).s (r.wasteStep e) := by
  cases e with
  | cancel i =>
    by_cases h : r.old ≤ i
    · simp only [RHist.step, RHist.wasteStep, if_pos h]
      exact CHist.step_shape r.s (.cancel i) hinf hp hl rfl
    · simp only [RHist.step, RHist.wasteStep, if_neg h, CHist.lapse]
      split
      · rename_i x hx
        exact .drop i x hx
      · exact .same _
  | cancelStale i t => simp [CEv.timely] at ht
  | _ => exact CHist.step_shape r.s _ hinf hp hl ht

theorem RHist.inv_run {p q burst t0 : Nat} (hp : 0 < p) (h : List CEv) :
    ∀ {r : RHist} {W : Int}, r.s.WF p q burst t0 → r.s.Inv t0 W → h.all CEv.timely = true →
      r.wasteOk W h = true → (r.run h).s.WF p q burst t0 ∧ ∃ W', (r.run h).s.Inv t0 W' := by
  induction h with
  | nil => intro r W w i _ _; exact ⟨w, W, i⟩
  | cons e h ih =>
    intro r W w i ht hok
    simp only [List.all_cons, Bool.and_eq_true] at ht
    simp only [RHist.wasteOk, Bool.and_eq_true, decide_eq_true_eq] at hok
    have sh := RHist.step_shape r e w.ninf (w.hp ▸ hp) w.last_le ht.1
    exact ih (w.shape sh) (CHist.Inv.shape hp w i sh hok.1) ht.2 hok.2

theorem RHist.wasteStep_nonneg (r : RHist) (e : CEv) (hok : r.creditOk e = true) : 0 ≤ r.wasteStep e := by
  fun_cases RHist.wasteStep r e
  case case1 i h => -- `cancel i`, effective
    simp only [RHist.creditOk, Bool.or_eq_true, decide_eq_true_eq] at hok
    exact CHist.wasteStep_nonneg r.s (.cancel i) (hok.resolve_left (by omega))
  all_goals omega

theorem RHist.wasteOk_of_runOk (h : List CEv) :
    ∀ (r : RHist) (W : Int), 0 ≤ W → r.runOk h = true → r.wasteOk W h = true := by
  induction h with
  | nil => intro r W _ _; rfl
  | cons e h ih =>
    intro r W hW hok
    simp only [RHist.runOk, Bool.and_eq_true] at hok
    have := r.wasteStep_nonneg e hok.1
    simp only [RHist.wasteOk, Bool.and_eq_true, decide_eq_true_eq]
    exact ⟨by omega, ih _ _ (by omega) hok.2⟩

/-- The instant `D` of `CBucket.Fresh`. `strict` (a bucket of one token): `0`, no reservation is exempt. Otherwise
`p·now + 1`, which exempts those due now: several reservations made while the bucket holds tokens are all due at once. -/
def dueBefore (strict : Bool) (pnow : Nat) : Nat := if strict then 0 else pnow + 1

theorem dueBefore_le (strict : Bool) (pnow : Nat) : dueBefore strict pnow ≤ pnow + 1 := by
  cases strict
  · exact Nat.le_refl _
  · exact Nat.zero_le _

theorem dueBefore_mono (strict : Bool) {a b : Nat} (h : a ≤ b) : dueBefore strict a ≤ dueBefore strict b := by
  cases strict
  · exact Nat.succ_le_succ h
  · exact Nat.le_refl _

/-- The reservations `fresh` that may still be cancelled (made after the most recent give-back), oldest first, against
the bucket in numbers (as `Ledger`: `U` units per token, `tok` units stored at `last`; `E` is `lastEvent`).
`le_ok`: none is due after `E`, so `restore` hands back at most its token. The other two, of all but those due before
the scaled instant `D` (`dueBefore`): each lies a whole token before the next, and no later than `p·last − tok`, the
scaled instant at which the bucket is out of debt. `allow`, `reserve` and `cancel_last` are stated at `last = now`, the
state `advance` leaves. -/
structure Spacing (D U p : Nat) (tok : Int) (last E : Nat) (fresh : List Resv) : Prop where
  le_ok : ∀ x ∈ fresh, x.act ≤ E
  spaced : fresh.Pairwise (fun x y => x.act < D ∨ x.act + U ≤ y.act)
  below : ∀ x ∈ fresh, x.act < D ∨ (x.act : Int) + tok ≤ ((p * last : Nat) : Int)

namespace Spacing
variable {D D' U C p : Nat} {tok T : Int} {last E now : Nat} {fresh fresh' front : List Resv} {r : Resv}

theorem nil : Spacing D U p tok last E [] := ⟨nofun, List.Pairwise.nil, nofun⟩

theorem mono (h : D ≤ D') (f : Spacing D U p tok last E fresh) : Spacing D' U p tok last E fresh :=
  ⟨f.le_ok, f.spaced.imp (by intro x y hxy; omega), fun x hx => by have := f.below x hx; omega⟩

theorem sublist (h : fresh'.Sublist fresh) (f : Spacing D U p tok last E fresh) : Spacing D U p tok last E fresh' :=
  ⟨fun x hx => f.le_ok x (h.subset hx), f.spaced.sublist h, fun x hx => f.below x (h.subset hx)⟩

theorem advance (hT : T ≤ tok + ((p * now : Nat) : Int) - ((p * last : Nat) : Int))
    (f : Spacing D U p tok last E fresh) : Spacing D U p T now E fresh :=
  ⟨f.le_ok, f.spaced, fun x hx => by have := f.below x hx; omega⟩

/-- after a successful `Allow` every reservation that may still be cancelled is due -/
theorem allow (hD : D ≤ p * now + 1) (h : 0 ≤ tok - U) (f : Spacing D U p tok now E fresh) :
    Spacing D U p (tok - U) now (p * now) fresh :=
  ⟨fun x hx => by have := f.below x hx; omega, f.spaced, fun x hx => by have := f.below x hx; omega⟩

/-- a new reservation goes on top; one that is due at once is exempt, or else (`C = U`) the bucket held no more than
the token it took -/
theorem reserve (hD : D ≤ p * now + 1) (hC : tok ≤ (C : Int)) (hD' : p * now < D ∨ C = U) (slot : Nat)
    (f : Spacing D U p tok now E fresh) :
    Spacing D U p (tok - U) now (p * now + ((U : Int) - tok).toNat)
      (fresh ++ [⟨slot, p * now + ((U : Int) - tok).toNat⟩]) := by
  have hbelow : ∀ x ∈ fresh, x.act < D ∨ x.act + U ≤ p * now + ((U : Int) - tok).toNat := by
    intro x hx
    have := f.below x hx
    omega
  refine ⟨List.forall_mem_append.mpr ⟨fun x hx => ?_, fun x hx => ?_⟩,
    List.pairwise_append.mpr ⟨f.spaced, List.pairwise_singleton _ _, fun x hx y hy => ?_⟩,
    List.forall_mem_append.mpr ⟨fun x hx => ?_, fun x hx => ?_⟩⟩
  · have := hbelow x hx
    omega
  · rw [List.mem_singleton.mp hx]; exact Nat.le_refl _
  · rw [List.mem_singleton.mp hy]; exact hbelow x hx
  · have := f.below x hx
    omega
  · rw [List.mem_singleton.mp hx]
    dsimp only
    omega

/-- the most recent reservation is cancelled and credited `U − (E − act)` -/
theorem cancel_last (hD : D ≤ p * now + 1) (f : Spacing D U p tok now E (front ++ [r])) :
    Spacing D U p (min (C : Int) (tok + ((U : Int) - ((E : Int) - (r.act : Int))))) now
      (if r.act = E ∧ p * now + U ≤ r.act then r.act - U else E) front := by
  have hr : r ∈ front ++ [r] := by simp
  have hrle := f.le_ok r hr
  have hrb := f.below r hr
  have hsp := (List.pairwise_append.mp f.spaced).2.2
  refine ⟨fun x hx => ?_, (List.pairwise_append.mp f.spaced).1, fun x hx => ?_⟩ <;>
    have h2 := hsp x hx r (List.mem_singleton_self r)
  · have h1 := f.le_ok x (List.mem_append_left _ hx)
    split <;> omega
  · omega

end Spacing

def CBucket.Fresh (D : Nat) (c : CBucket) (fresh : List Resv) : Prop :=
  Spacing D c.b.unit c.b.p c.b.tokens c.b.last c.lastEvent fresh

namespace CBucket.Fresh
variable {c : CBucket} {D now : Nat} {fresh : List Resv}

/-- a reservation that is neither exempt nor the most recent one cannot be credited: the later
ones lie a whole token after it -/
theorem not_last_noop (f : c.Fresh D fresh) (j : Nat) (x : Resv) (hx : fresh[j]? = some x)
    (hj : j + 1 < fresh.length) (hD : D ≤ x.act) : c.restore x ≤ 0 := by
  obtain ⟨hjl, hxe⟩ := List.getElem?_eq_some_iff.mp hx
  have hsp := (List.pairwise_iff_getElem.mp f.spaced) j (j + 1) hjl hj (Nat.lt_succ_self j)
  have hle := f.le_ok fresh[j + 1] (List.getElem_mem hj)
  rw [hxe] at hsp
  unfold CBucket.restore
  omega

theorem credited_last {strict : Bool} {j : Nat} {x : Resv}
    (f : c.Fresh (dueBefore strict (c.b.p * now)) fresh) (fs : ∀ x ∈ fresh, c.b.p * x.slot < x.act + c.b.p)
    (hx : fresh[j]? = some x) (h0 : 0 < c.restore x) (hw : strict = true ∨ j + 1 = fresh.length ∨ now < x.slot) :
    j + 1 = fresh.length := by
  have hj := (List.getElem?_eq_some_iff.mp hx).1
  rcases Nat.lt_or_ge (j + 1) fresh.length with hlt | hge
  · refine absurd (f.not_last_noop j x hx hlt ?_) (Int.not_le.mpr h0)
    rcases hw with hw | hw | hw
    · rw [hw]; exact Nat.zero_le _
    · omega
    · have := fs x (List.mem_of_getElem? hx)
      have : c.b.p * (now + 1) ≤ c.b.p * x.slot := Nat.mul_le_mul_left _ hw
      rw [Nat.mul_add, Nat.mul_one] at this
      unfold dueBefore; split <;> omega
  · omega

end CBucket.Fresh

/-- `CBucket.Fresh` with those due now exempt, and: the slot reported is the first whole nanosecond
at which the token is covered. -/
structure CBucket.FreshOk (c : CBucket) (now : Nat) (fresh : List Resv) : Prop where
  le_ok : ∀ x ∈ fresh, x.act ≤ c.lastEvent
  spaced : fresh.Pairwise (fun x y => x.act ≤ c.b.p * now ∨ x.act + c.b.unit ≤ y.act)
  below : ∀ x ∈ fresh, x.act ≤ c.b.p * now ∨ (x.act : Int) + c.b.tokens ≤ ((c.b.p * c.b.last : Nat) : Int)
  slot_ok : ∀ x ∈ fresh, c.b.p * x.slot < x.act + c.b.p

theorem CBucket.FreshOk.iff {c : CBucket} {now : Nat} {fresh : List Resv} :
    c.FreshOk now fresh ↔ c.Fresh (c.b.p * now + 1) fresh ∧ ∀ x ∈ fresh, c.b.p * x.slot < x.act + c.b.p :=
  ⟨fun f => ⟨⟨f.le_ok, f.spaced.imp (by intro x y h; omega), fun x hx => by have := f.below x hx; omega⟩, f.slot_ok⟩,
   fun f => ⟨f.1.le_ok, f.1.spaced.imp (by intro x y h; omega), fun x hx => by have := f.1.below x hx; omega, f.2⟩⟩

theorem CBucket.FreshOk.reserve {c : CBucket} {now : Nat} {fresh : List Resv} (hl : c.b.last ≤ now) (hp : 0 < c.b.p)
    (f : c.FreshOk now fresh) :
    CBucket.FreshOk ⟨{ c.b with tokens := c.b.tokensAt now - (c.b.unit : Int), last := now }, c.b.actScaled now⟩ now
      (fresh ++ [⟨now + ceilDiv (c.b.deficit now) c.b.p, c.b.actScaled now⟩]) := by
  have f' := CBucket.FreshOk.iff.mp f
  refine CBucket.FreshOk.iff.mpr ⟨(f'.1.advance (Bucket.tokensAt_le hl)).reserve (Nat.le_refl _)
      (c.b.tokensAt_le_cap now) (Or.inl (Nat.lt_succ_self _)) _,
    List.forall_mem_append.mpr ⟨f'.2, fun x hx => ?_⟩⟩
  rw [List.mem_singleton.mp hx]
  exact c.b.slot_lt now hp

/-- `CBucket.Fresh` without exemption. -/
structure CBucket.FreshOk1 (c : CBucket) (fresh : List Resv) : Prop where
  le_ok : ∀ x ∈ fresh, x.act ≤ c.lastEvent
  spaced : fresh.Pairwise (fun x y => x.act + c.b.unit ≤ y.act)
  below : ∀ x ∈ fresh, (x.act : Int) + c.b.tokens ≤ ((c.b.p * c.b.last : Nat) : Int)

theorem CBucket.FreshOk1.iff {c : CBucket} {fresh : List Resv} : c.FreshOk1 fresh ↔ c.Fresh 0 fresh :=
  ⟨fun f => ⟨f.le_ok, f.spaced.imp Or.inr, fun x hx => Or.inr (f.below x hx)⟩,
   fun f => ⟨f.le_ok, f.spaced.imp (by intro x y h; omega), fun x hx => by have := f.below x hx; omega⟩⟩

theorem CBucket.FreshOk1.reserve {c : CBucket} {now : Nat} {fresh : List Resv} (hl : c.b.last ≤ now) (slot : Nat)
    (hcap : c.b.cap = c.b.unit) (f : c.FreshOk1 fresh) :
    CBucket.FreshOk1 ⟨{ c.b with tokens := c.b.tokensAt now - (c.b.unit : Int), last := now }, c.b.actScaled now⟩
      (fresh ++ [⟨slot, c.b.actScaled now⟩]) :=
  CBucket.FreshOk1.iff.mpr (((CBucket.FreshOk1.iff.mp f).advance (Bucket.tokensAt_le hl)).reserve (Nat.zero_le _)
    (c.b.tokensAt_le_cap now) (Or.inr hcap) slot)

/-- `pending` is `olds ++ fresh` with `old` the length of `olds`; `fresh` is `CBucket.Fresh` (`strict` says with which
`D`: `dueBefore`), and the slot of each is the first whole nanosecond at which its token is covered. -/
structure RHist.Fresh (strict : Bool) (r : RHist) : Prop where
  ex : ∃ olds fresh, r.s.pending = olds ++ fresh ∧ olds.length = r.old ∧
    r.s.c.Fresh (dueBefore strict (r.s.c.b.p * r.s.now)) fresh ∧
    ∀ x ∈ fresh, r.s.c.b.p * x.slot < x.act + r.s.c.b.p

theorem RHist.Fresh.init (strict : Bool) (p q burst t0 : Nat) : (RHist.init p q burst t0).Fresh strict :=
  ⟨[], [], rfl, rfl, Spacing.nil, nofun⟩

theorem CHist.step_giveBack_pending (s : CHist) : (s.step .giveBack).pending = s.pending := by
  simp only [CHist.step]
  split <;> rfl

/-- a pending reservation leaves the list and the limiter is not touched -/
theorem RHist.Fresh.erase {strict : Bool} {r : RHist} (L : r.Fresh strict) (i : Nat) (s' : CHist)
    (hc : s'.c = r.s.c) (hn : s'.now = r.s.now) (hpend : s'.pending = r.s.pending.eraseIdx i) :
    RHist.Fresh strict ⟨s', if i < r.old then r.old - 1 else r.old⟩ := by
  obtain ⟨olds, fresh, h1, h2, f, fs⟩ := L.ex
  refine ⟨?_⟩
  show ∃ _ fresh', s'.pending = _ ∧ _ ∧ s'.c.Fresh (dueBefore strict (s'.c.b.p * s'.now)) _ ∧
    ∀ x ∈ fresh', s'.c.b.p * Resv.slot x < x.act + s'.c.b.p
  rw [hc, hn, hpend, h1]
  by_cases h : i < r.old
  · refine ⟨olds.eraseIdx i, fresh, List.eraseIdx_append_of_lt_length (by omega) _, ?_, f, fs⟩
    rw [if_pos h, List.length_eraseIdx, if_pos (by omega), h2]
  · refine ⟨olds, fresh.eraseIdx (i - olds.length), List.eraseIdx_append_of_length_le (by omega) _, ?_,
      f.sublist (List.eraseIdx_sublist _ _), fun x hx => fs x (List.mem_of_mem_eraseIdx hx)⟩
    rw [if_neg h, h2]

theorem RHist.Fresh.creditOk {strict : Bool} {r : RHist} (L : r.Fresh strict) (e : CEv) : r.creditOk e = true := by
  cases e with
  | cancel i =>
    obtain ⟨olds, fresh, h1, h2, f, _⟩ := L.ex
    simp only [RHist.creditOk, CHist.creditOk, Bool.or_eq_true, decide_eq_true_eq]
    by_cases hio : i < r.old
    · exact Or.inl hio
    · right
      split
      · rename_i x hx
        rw [h1, List.getElem?_append_right (by omega)] at hx
        have := f.le_ok x (List.mem_of_getElem? hx)
        simp only [Bool.or_eq_true, decide_eq_true_eq]
        right; unfold CBucket.restore; omega
      · rfl
  | _ => rfl

theorem RHist.Fresh.step {p q burst t0 : Nat} {strict : Bool} (hp : 0 < p) {r : RHist} (w : r.s.WF p q burst t0)
    (L : r.Fresh strict) (e : CEv) (ht : e.timely = true) (hb : strict = true → burst = 1)
    (hl : strict = true ∨ r.waitEv e = true) : (r.step e).Fresh strict := by
  have hp' : 0 < r.s.c.b.p := w.hp ▸ hp
  have hlast := w.last_le
  obtain ⟨olds, fresh, h1, h2, f, fs⟩ := L.ex
  have hlen : r.s.pending.length = olds.length + fresh.length := by rw [h1, List.length_append]
  have hD := dueBefore_le strict (r.s.c.b.p * r.s.now)
  have fa := f.advance (Bucket.tokensAt_le hlast)
  have st := CHist.step_shape r.s e w.ninf hp' hlast ht
  -- `cases st` below needs variables where `st` has `r.s.wasteStep e` and `r.s.step e`: hence the `generalize`s
  generalize r.s.wasteStep e = δ at st
  cases e with
  | cancelStale i t => simp [CEv.timely] at ht
  | adv dt =>
    exact ⟨olds, fresh, h1, h2, f.mono (dueBefore_mono strict (Nat.mul_le_mul_left _ (Nat.le_add_right _ dt))), fs⟩
  | allow =>
    show RHist.Fresh strict ⟨r.s.step .allow, r.old⟩
    generalize r.s.step .allow = s' at st
    cases st with
    | same => exact L
    | takeOut _ hd => exact ⟨olds, fresh, h1, h2, fa.allow hD hd, fs⟩
  | reserve =>
    show RHist.Fresh strict ⟨r.s.step .reserve, r.old⟩
    generalize r.s.step .reserve = s' at st
    cases st with
    | same => exact L
    | takePend _ =>
      refine ⟨olds, fresh ++ [_], by rw [← List.append_assoc, ← h1]; rfl, h2,
        fa.reserve hD (r.s.c.b.tokensAt_le_cap r.s.now) ?_ _,
        List.forall_mem_append.mpr ⟨fs, fun x hx => ?_⟩⟩
      · cases strict
        · exact Or.inl (Nat.lt_succ_self _)
        · exact Or.inr (by rw [Bucket.cap, w.hburst, hb rfl, Nat.one_mul])
      · rw [List.mem_singleton.mp hx]
        exact r.s.c.b.slot_lt r.s.now hp'
  | giveBack =>
    exact ⟨(r.s.step .giveBack).pending, [], (List.append_nil _).symm,
      congrArg List.length (CHist.step_giveBack_pending r.s), Spacing.nil, nofun⟩
  | use i =>
    show RHist.Fresh strict ⟨r.s.step (.use i),
      if i < r.old ∧ (r.s.step (.use i)).pending.length < r.s.pending.length then r.old - 1 else r.old⟩
    generalize r.s.step (.use i) = s' at st
    cases st with
    | same => rw [if_neg (by omega)]; exact L
    | use _ x hx _ =>
      have hi := (List.getElem?_eq_some_iff.mp hx).1
      have := L.erase i { r.s with pending := r.s.pending.eraseIdx i, out := ⟨r.s.now, x.act⟩ :: r.s.out } rfl rfl rfl
      simpa only [List.length_eraseIdx, if_pos hi, Nat.sub_lt (by omega : 0 < r.s.pending.length) Nat.one_pos, and_true]
  | cancel i =>
    show RHist.Fresh strict (if r.old ≤ i then ⟨r.s.step (.cancel i), r.old⟩ else ⟨r.s.lapse i, r.old - 1⟩)
    have hE := L.erase i { r.s with pending := r.s.pending.eraseIdx i, cancelled := r.s.cancelled + 1 } rfl rfl rfl
    by_cases hio : r.old ≤ i
    · rw [if_pos hio]
      have hoi : olds.length ≤ i := h2 ▸ hio
      generalize r.s.step (.cancel i) = s' at st
      cases st with
      | same => exact L
      | drop => rwa [if_neg (by omega)] at hE
      | credit _ x hx _ h0 =>
        have hxf : fresh[i - olds.length]? = some x := by
          rw [h1, List.getElem?_append_right hoi] at hx; exact hx
        have hflen : (i - olds.length) + 1 = fresh.length := by
          refine f.credited_last fs hxf h0 (hl.imp id fun hl => ?_)
          simp only [RHist.waitEv, hx, Bool.or_eq_true, decide_eq_true_eq] at hl
          omega
        have hsplit := list_last_split fresh (i - olds.length) x hxf hflen
        refine ⟨olds, fresh.eraseIdx (i - olds.length), ?_, h2, ?_, fun y hy => fs y (List.mem_of_mem_eraseIdx hy)⟩
        · show r.s.pending.eraseIdx i = _
          rw [h1, List.eraseIdx_append_of_length_le hoi]
        · rw [hsplit] at fa
          exact fa.cancel_last hD
    · rw [if_neg hio]
      unfold CHist.lapse
      split
      · rwa [if_pos (by omega)] at hE
      · rename_i hx
        have := List.getElem?_eq_none_iff.mp hx
        omega

theorem RHist.fresh_run {p q burst t0 : Nat} {strict : Bool} (hp : 0 < p) (hb : strict = true → burst = 1)
    (h : List CEv) : ∀ {r : RHist}, r.s.WF p q burst t0 → r.Fresh strict → h.all CEv.timely = true →
      strict = true ∨ r.waitOk h = true → r.runOk h = true := by
  induction h with
  | nil => intro r _ _ _ _; rfl
  | cons e h ih =>
    intro r w L ht hl
    simp only [List.all_cons, Bool.and_eq_true] at ht
    simp only [RHist.waitOk, Bool.and_eq_true] at hl
    have sh := RHist.step_shape r e w.ninf (w.hp ▸ hp) w.last_le ht.1
    simp only [RHist.runOk, Bool.and_eq_true]
    exact ⟨L.creditOk e, ih (w.shape sh) (L.step hp w e ht.1 hb (hl.imp id And.left)) ht.2 (hl.imp id And.right)⟩

theorem RHist.waitEv_of_lifoEv (r : RHist) (e : CEv) (h : r.lifoEv e = true) : r.waitEv e = true := by
  cases e with
  | cancel i =>
    simp only [RHist.lifoEv, RHist.waitEv, Bool.or_eq_true, decide_eq_true_eq] at *
    rcases h with (h | h) | h
    · exact Or.inl (Or.inl h)
    · exact Or.inl (Or.inr h)
    · right
      rw [List.getElem?_eq_none h]
  | _ => rfl

theorem RHist.waitOk_of_lifoOk (h : List CEv) : ∀ (r : RHist), r.lifoOk h = true → r.waitOk h = true := by
  induction h with
  | nil => intro _ _; rfl
  | cons e h ih =>
    intro r hl
    simp only [RHist.lifoOk, Bool.and_eq_true] at hl
    simp only [RHist.waitOk, Bool.and_eq_true]
    exact ⟨r.waitEv_of_lifoEv e hl.1, ih _ hl.2⟩

def CEv.noGiveBack (e : CEv) : Bool := !e.isGiveBack

theorem RHist.step_old_zero (s : CHist) (e : CEv) (h : e.isGiveBack = false) :
    RHist.step ⟨s, 0⟩ e = ⟨s.step e, 0⟩ := by
  cases e with
  | giveBack => simp [CEv.isGiveBack] at h
  | cancel i => simp only [RHist.step, Nat.zero_le, if_true]
  | cancelStale i t => simp only [RHist.step, Nat.zero_le, if_true]
  | use i => simp only [RHist.step, Nat.not_lt_zero, false_and, if_false]
  | adv dt => rfl
  | allow => rfl
  | reserve => rfl

theorem RHist.wasteStep_old_zero (s : CHist) (e : CEv) : RHist.wasteStep ⟨s, 0⟩ e = s.wasteStep e := by
  cases e with
  | cancel i => simp only [RHist.wasteStep, Nat.zero_le, if_true]
  | _ => rfl

/-- an event that certainly changes nothing: a cancellation beyond the pending reservations
(cheaper to evaluate than comparing the states) -/
def RHist.idle (r : RHist) : CEv → Bool
  | .cancel i => decide (r.s.pending.length ≤ i) && decide (r.old ≤ i)
  | _ => false

theorem RHist.idle_spec (r : RHist) (e : CEv) (h : r.idle e = true) : r.step e = r ∧ r.wasteStep e = 0 := by
  cases e with
  | cancel i =>
    simp only [RHist.idle, Bool.and_eq_true, decide_eq_true_eq] at h
    have hn := List.getElem?_eq_none h.1
    simp only [RHist.step, RHist.wasteStep, if_pos h.2, CHist.step, CHist.wasteStep, hn, and_self]
  | _ => simp [RHist.idle] at h

/-- Every history of at most `n` events drawn from `evs`, run under the discipline of the repo
from `r` with waste `W`, keeps the running waste non-negative. Idle events are not followed (a
history with such an event behaves like the shorter history without it). -/
def RHist.allWasteOk (evs : List CEv) : Nat → RHist → Int → Bool
  | 0, _, _ => true
  | n + 1, r, W =>
    evs.all fun e => r.idle e ||
      (decide (0 ≤ W + r.wasteStep e) && allWasteOk evs n (r.step e) (W + r.wasteStep e))

theorem RHist.allWasteOk_sound (evs : List CEv) : ∀ (h : List CEv) (n : Nat) (r : RHist) (W : Int), 0 ≤ W →
    h.length ≤ n → (∀ e ∈ h, e ∈ evs) → RHist.allWasteOk evs n r W = true → r.wasteOk W h = true
  | [], _, _, _, _, _, _, _ => rfl
  | e :: h, 0, _, _, _, hl, _, _ => absurd hl (Nat.not_succ_le_zero _)
  | e :: h, n + 1, r, W, hW, hl, hm, hall => by
    have hn := hall
    rw [RHist.allWasteOk] at hn
    simp only [List.all_eq_true, Bool.or_eq_true, Bool.and_eq_true, decide_eq_true_eq] at hn
    have hlen : h.length ≤ n := Nat.le_of_succ_le_succ hl
    have hmem : ∀ e' ∈ h, e' ∈ evs := fun e' he' => hm e' (List.mem_cons_of_mem _ he')
    simp only [RHist.wasteOk, Bool.and_eq_true, decide_eq_true_eq]
    rcases hn e (hm e (List.mem_cons_self ..)) with hs | hs
    · -- an idle event: the rest is a shorter history from the same state
      obtain ⟨h1, h2⟩ := r.idle_spec e hs
      rw [h1, h2, Int.add_zero]
      exact ⟨hW, RHist.allWasteOk_sound evs h (n + 1) r W hW (Nat.le_succ_of_le hlen) hmem hall⟩
    · exact ⟨hs.1, RHist.allWasteOk_sound evs h n _ _ hs.1 hlen hmem hs.2⟩

theorem RHist.wasteOk_cons_zero (r : RHist) (W : Int) (e : CEv) (h : List CEv) (hW : 0 ≤ W)
    (he : r.wasteStep e = 0) : r.wasteOk W (e :: h) = (r.step e).wasteOk W h := by
  simp only [RHist.wasteOk, he, Int.add_zero, hW, decide_true, Bool.true_and]

end Dht
