/- The literal reading implies the general one; an executable
checker for honest histories (used by the non-vacuity example). -/
import DhtVerif.Lemmas.C02Honest
namespace Dht

theorem ExactReply.honest {c : TravCfg} {net : List NetNode} (hwf : NetWF net) {a : Addr} {r : QResult}
    (h : ExactReply c net a r) : HonestReply c net a r := by
  obtain ⟨h1, h2, h3⟩ := h
  refine ⟨h1, h2, ?_, ?_⟩
  · intro x hx
    obtain ⟨n, hn, rfl⟩ := (h3 x).mp hx
    exact NetNode.cand_ok hwf n (kClosest_sub n hn)
  · intro n hn
    exact (h3 n.cand).mpr ⟨n, hn, rfl⟩

theorem ExactHist.honest {c : TravCfg} {net : List NetNode} (hwf : NetWF net) {evs : List TravEv}
    (h : ExactHist c net evs) : HonestHist c net evs := by
  intro e he
  have := h e he
  cases e with
  | addNodes ns =>
    intro x hx i hi
    obtain ⟨n, hn, _, hid⟩ := this x hx
    rcases hid with hid | hid
    · rw [hid] at hi
      simp only [Option.some.injEq] at hi
      rw [← hi]; exact hwf.idLen n hn
    · rw [hid] at hi; cases hi
  | queryReturn a r => exact ExactReply.honest hwf this
  | _ => trivial

def Cand.okB (x : Cand) : Bool :=
  match x.id with
  | none => true
  | some i => i.length == 20

theorem Cand.okB_sound (x : Cand) (h : x.okB = true) : x.ok := by
  intro i hi
  unfold Cand.okB at h
  rw [hi] at h
  simpa using h

def honestReplyB (c : TravCfg) (net : List NetNode) (a : Addr) (r : QResult) : Bool :=
  (match r.responder with
   | some id => net.contains (id, a)
   | none => false) &&
  c.dataFilter r.data &&
  (r.nodes ++ r.nodes6).all Cand.okB &&
  (kClosest c.target c.k net).all (fun n => (r.nodes ++ r.nodes6).contains n.cand)

theorem honestReplyB_sound (c : TravCfg) (net : List NetNode) (a : Addr) (r : QResult)
    (h : honestReplyB c net a r = true) : HonestReply c net a r := by
  unfold honestReplyB at h
  simp only [Bool.and_eq_true, List.all_eq_true, List.contains_iff_mem] at h
  obtain ⟨⟨⟨h1, h2⟩, h3⟩, h4⟩ := h
  refine ⟨?_, h2, fun x hx => Cand.okB_sound x (h3 x hx), h4⟩
  cases hr : r.responder with
  | none => rw [hr] at h1; cases h1
  | some id =>
    rw [hr] at h1
    exact ⟨id, by simpa using h1, rfl⟩

def honestEvB (c : TravCfg) (net : List NetNode) : TravEv → Bool
  | .addNodes ns => ns.all Cand.okB
  | .queryReturn a r => honestReplyB c net a r
  | _ => true

def honestHistB (c : TravCfg) (net : List NetNode) (evs : List TravEv) : Bool :=
  evs.all (honestEvB c net)

theorem honestHistB_sound (c : TravCfg) (net : List NetNode) (evs : List TravEv)
    (h : honestHistB c net evs = true) : HonestHist c net evs := by
  intro e he
  unfold honestHistB at h
  rw [List.all_eq_true] at h
  have := h e he
  cases e with
  | addNodes ns =>
    intro x hx
    simp only [honestEvB, List.all_eq_true] at this
    exact Cand.okB_sound x (this x hx)
  | queryReturn a r => exact honestReplyB_sound c net a r this
  | _ => trivial

def exactReplyB (c : TravCfg) (net : List NetNode) (a : Addr) (r : QResult) : Bool :=
  (match r.responder with
   | some id => net.contains (id, a)
   | none => false) &&
  c.dataFilter r.data &&
  (r.nodes ++ r.nodes6).all (fun x => ((kClosest c.target c.k net).map NetNode.cand).contains x) &&
  (kClosest c.target c.k net).all (fun n => (r.nodes ++ r.nodes6).contains n.cand)

theorem exactReplyB_sound (c : TravCfg) (net : List NetNode) (a : Addr) (r : QResult)
    (h : exactReplyB c net a r = true) : ExactReply c net a r := by
  unfold exactReplyB at h
  simp only [Bool.and_eq_true, List.all_eq_true, List.contains_iff_mem] at h
  obtain ⟨⟨⟨h1, h2⟩, h3⟩, h4⟩ := h
  refine ⟨?_, h2, ?_⟩
  · cases hr : r.responder with
    | none => rw [hr] at h1; cases h1
    | some id =>
      rw [hr] at h1
      exact ⟨id, by simpa using h1, rfl⟩
  · intro x
    constructor
    · intro hx
      obtain ⟨n, hn, hnx⟩ := List.mem_map.mp (h3 x hx)
      exact ⟨n, hn, hnx.symm⟩
    · rintro ⟨n, hn, rfl⟩
      exact h4 n hn

def exactEvB (c : TravCfg) (net : List NetNode) : TravEv → Bool
  | .addNodes ns => ns.all (fun x => net.any (fun n => x.addr == n.2 && (x.id == some n.1 || x.id == none)))
  | .queryReturn a r => exactReplyB c net a r
  | _ => true

def exactHistB (c : TravCfg) (net : List NetNode) (evs : List TravEv) : Bool :=
  evs.all (exactEvB c net)

theorem exactHistB_sound (c : TravCfg) (net : List NetNode) (evs : List TravEv)
    (h : exactHistB c net evs = true) : ExactHist c net evs := by
  intro e he
  unfold exactHistB at h
  rw [List.all_eq_true] at h
  have := h e he
  cases e with
  | addNodes ns =>
    intro x hx
    simp only [exactEvB, List.all_eq_true, List.any_eq_true, Bool.and_eq_true, Bool.or_eq_true,
      beq_iff_eq] at this
    obtain ⟨n, hn, h1, h2⟩ := this x hx
    exact ⟨n, hn, h1, h2⟩
  | queryReturn a r => exact exactReplyB_sound c net a r this
  | _ => trivial

end Dht
