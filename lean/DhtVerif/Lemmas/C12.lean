/- The store invariant: every stored item is valid and filed under its target. -/
import DhtVerif.Lemmas.B44
namespace Dht.B44

/-- What the property demands of a stored / served item (limits as in the property text). -/
def ItemValid (P : Params) (i : Item) : Prop :=
  i.bv.length ≤ 1000 ∧
  ∀ k, i.k = some k → i.salt.length ≤ 64 ∧ P.verify k (bufferToSign i.salt i.seq i.bv) i.sig = true

/-- … and of the place it is filed under. -/
def RightTarget (P : Params) (t : Target) (i : Item) : Prop :=
  (∀ k, i.k = some k → t = P.H (k ++ i.salt)) ∧ (i.k = none → t = P.H i.bv)

def StoreInv (P : Params) (s : Store) : Prop :=
  ∀ t e, s t = some e → ItemValid P e.item ∧ RightTarget P t e.item

theorem rightTarget_target (P : Params) (i : Item) : RightTarget P (target P i) i := by
  unfold RightTarget target
  cases hk : i.k with
  | none => exact ⟨fun k h => (by cases h), fun _ => rfl⟩
  | some k => exact ⟨fun k' h => (by cases h; rfl), fun h => (by cases h)⟩

/-- `Check` with the limits and codes of the source tree written out. -/
theorem check_eq (P : Params) (i : Item) :
    check P i = if i.bv.length > 1000 then some 205 else match i.k with
      | none => none
      | some k => if i.salt.length > 64 then some 207
        else if !P.verify k (bufferToSign i.salt i.seq i.bv) i.sig then some 206 else none := rfl

theorem check_eq_none_iff (P : Params) (i : Item) : check P i = none ↔ ItemValid P i := by
  unfold ItemValid
  fun_cases check P i
  case case1 hv => exact ⟨nofun, fun h => absurd h.1 (Nat.not_le.mpr hv)⟩ -- value too long: 205
  case case2 hv hk => -- immutable: nothing else is tested
    exact ⟨fun _ => ⟨Nat.le_of_not_gt hv, fun k h => (by rw [hk] at h; cases h)⟩, fun _ => rfl⟩
  case case3 hv k hk hs => exact ⟨nofun, fun h => absurd (h.2 k hk).1 (Nat.not_le.mpr hs)⟩ -- salt too long: 207
  case case4 hv k hk hs hver => exact ⟨nofun, fun h => (by rw [(h.2 k hk).2] at hver; cases hver)⟩ -- bad signature: 206
  case case5 hv k hk hs hver => -- mutable and valid
    refine ⟨fun _ => ⟨Nat.le_of_not_gt hv, fun k' hk' => ?_⟩, fun _ => rfl⟩
    rw [hk] at hk'; cases hk'
    exact ⟨Nat.le_of_not_gt hs, by simpa using hver⟩

theorem StoreInv.step (P : Params) (exp : Nat) (s : St) (ev : Ev) (h : StoreInv P s.store) :
    StoreInv P (s.step P exp ev).store := by
  intro t e he
  rcases St.step_at P exp s ev t with h' | ⟨i, _, ht, hc, _, h'⟩ | ⟨_, _, _, _, _, h'⟩
  · exact h t e (h' ▸ he)
  · rw [h'] at he; cases he
    exact ⟨(check_eq_none_iff P i).mp hc, ht ▸ rightTarget_target P i⟩
  · rw [h'] at he; cases he

end Dht.B44
