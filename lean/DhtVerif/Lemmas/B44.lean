/-
Lemmas about the BEP 44 store model (Model/Bep44.lean) shared by C12 and C13. Each operation of the
model gets its equations (one per outcome) and one case lemma; `Wrapper.put_at` and `St.step_at` then say
what a single put, a single event can do to what is stored under a single target; the facts about whole
histories (`St.run` is a `foldl`) come from them by `List.foldlRecOn` in Props/C12, Props/C13 and Lemmas/C13Fault.
-/
import DhtVerif.Model.Bep44
import DhtVerif.Lemmas.Basic
namespace Dht.B44

theorem Store.set_same (s : Store) (t : Target) (e : Entry) : (s.set t e) t = some e := by
  simp [Store.set]

theorem Store.set_other {s : Store} {t t' : Target} {e : Entry} (h : t' ≠ t) : (s.set t e) t' = s t' := by
  simp [Store.set, h]

theorem Store.del_same (s : Store) (t : Target) : (s.del t) t = none := by
  simp [Store.del]

theorem Store.del_other {s : Store} {t t' : Target} (h : t' ≠ t) : (s.del t) t' = s t' := by
  simp [Store.del, h]

/-- The CAS test under either rule: the two rules differ in nothing else. -/
def casMismatch (spec : Bool) (st i : Item) : Prop :=
  if spec then i.cas ≠ 0 ∧ st.seq ≠ i.cas else st.cas ≠ 0 ∧ st.cas ≠ i.cas

instance (spec : Bool) (st i : Item) : Decidable (casMismatch spec st i) := by
  unfold casMismatch; infer_instance

theorem checkIncomingWith_eq (spec : Bool) (st i : Item) :
    checkIncomingWith spec st i =
      if st.seq = i.seq ∧ st.bv = i.bv then none
      else if i.seq ≤ st.seq then some Gen.bep44ErrSequenceNumberLessThanCurrent
      else if casMismatch spec st i then some Gen.bep44ErrCasHashMismatched else none := by
  cases spec
  · show checkIncomingLit st i = _
    unfold checkIncomingLit casMismatch
    rw [ite_none_ite (st.cas = 0)]; rfl
  · show checkIncomingSpec st i = _
    unfold checkIncomingSpec casMismatch
    rw [ite_none_ite (i.cas = 0)]; rfl

theorem checkIncomingWith_none_forward {spec : Bool} {st i : Item} (h : checkIncomingWith spec st i = none) :
    st.seq ≤ i.seq ∧ (st.seq = i.seq → st.bv = i.bv) := by
  rw [checkIncomingWith_eq] at h
  by_cases hr : st.seq = i.seq ∧ st.bv = i.bv
  · exact ⟨Int.le_of_eq hr.1, fun _ => hr.2⟩
  · rw [if_neg hr] at h
    by_cases hl : i.seq ≤ st.seq
    · rw [if_pos hl] at h; cases h
    · exact ⟨Int.le_of_lt (Int.not_le.mp hl), fun he => absurd (Int.le_of_eq he.symm) hl⟩

theorem checkIncomingWith_lower {spec : Bool} {st i : Item}
    (h : i.seq < st.seq ∨ (i.seq = st.seq ∧ i.bv ≠ st.bv)) :
    checkIncomingWith spec st i = some Gen.bep44ErrSequenceNumberLessThanCurrent := by
  have h1 : ¬ (st.seq = i.seq ∧ st.bv = i.bv) := fun ⟨a, b⟩ =>
    h.elim (fun h => Int.lt_irrefl _ (a ▸ h)) fun h => h.2 b.symm
  have h2 : i.seq ≤ st.seq := h.elim Int.le_of_lt fun h => Int.le_of_eq h.1
  rw [checkIncomingWith_eq, if_neg h1, if_pos h2]

theorem checkIncomingWith_higher (spec : Bool) {st i : Item} (h : st.seq < i.seq) :
    checkIncomingWith spec st i = if casMismatch spec st i then some Gen.bep44ErrCasHashMismatched else none := by
  have h1 : ¬ (st.seq = i.seq ∧ st.bv = i.bv) := fun ⟨a, _⟩ => Int.lt_irrefl _ (a ▸ h)
  rw [checkIncomingWith_eq, if_neg h1, if_neg (Int.not_le.mpr h)]

theorem checkIncomingSpec_higher {st i : Item} (h : st.seq < i.seq) :
    (i.cas ≠ 0 ∧ i.cas ≠ st.seq → checkIncomingWith true st i = some Gen.bep44ErrCasHashMismatched) ∧
    (i.cas = 0 ∨ i.cas = st.seq → checkIncomingWith true st i = none) := by
  rw [checkIncomingWith_higher true h]
  constructor
  · rintro ⟨h0, h1⟩; exact if_pos ⟨h0, fun e => h1 e.symm⟩
  · intro hc
    refine if_neg fun ⟨h0, h1⟩ => ?_
    rcases hc with hc | hc
    · exact h0 hc
    · exact h1 hc.symm

theorem checkIncomingSpec_none_cas {st i : Item} (h : checkIncomingWith true st i = none)
    (hch : i.seq ≠ st.seq ∨ i.bv ≠ st.bv) (h0 : i.cas ≠ 0) : i.cas = st.seq := by
  have hf := checkIncomingWith_none_forward h
  have hlt : st.seq < i.seq :=
    Int.lt_iff_le_and_ne.mpr ⟨hf.1, fun e => hch.elim (fun hc => hc e.symm) fun hc => hc (hf.2 e).symm⟩
  rw [checkIncomingWith_higher true hlt] at h
  by_cases hm : i.cas = st.seq
  · exact hm
  · rw [if_pos ⟨h0, fun e => hm e.symm⟩] at h; cases h

theorem checkIncomingWith_code {spec : Bool} {st i : Item} {e : Nat} (h : checkIncomingWith spec st i = some e) :
    e = Gen.bep44ErrCasHashMismatched ∨ e = Gen.bep44ErrSequenceNumberLessThanCurrent := by
  rw [checkIncomingWith_eq] at h
  by_cases h1 : st.seq = i.seq ∧ st.bv = i.bv
  · rw [if_pos h1] at h; cases h
  · rw [if_neg h1] at h
    by_cases h2 : i.seq ≤ st.seq
    · rw [if_pos h2] at h; cases h; exact Or.inr rfl
    · rw [if_neg h2] at h
      by_cases h3 : casMismatch spec st i
      · rw [if_pos h3] at h; cases h; exact Or.inl rfl
      · rw [if_neg h3] at h; cases h

/-- `CheckIncoming` has nothing against the put: whatever is stored under the item's target lets it through. -/
def Admits (P : Params) (s : Store) (i : Item) : Prop :=
  ∀ st, s (target P i) = some st → checkIncomingWith P.casSpec st.item i = none

theorem Wrapper.put_of_check {P : Params} {s : Store} {i : Item} {e : Nat} (now : Nat) (hc : check P i = some e) :
    Wrapper.put P now s i = (s, some e) := by
  unfold Wrapper.put; rw [hc]

theorem Wrapper.put_of_incoming {P : Params} {s : Store} {i : Item} {st : Entry} {e : Nat} (now : Nat)
    (hc : check P i = none) (hs : s (target P i) = some st) (hi : checkIncomingWith P.casSpec st.item i = some e) :
    Wrapper.put P now s i = (s, some e) := by
  unfold Wrapper.put; rw [hc]; simp only []; rw [hs]; simp only []; rw [hi]

theorem Wrapper.put_of_admits {P : Params} {s : Store} {i : Item} (now : Nat) (hc : check P i = none)
    (ha : Admits P s i) : Wrapper.put P now s i = (s.set (target P i) ⟨i, now⟩, none) := by
  unfold Wrapper.put; rw [hc]; simp only []
  cases hs : s (target P i) with
  | none => rfl
  | some st => simp only []; rw [ha st hs]

theorem Wrapper.put_cases (P : Params) (now : Nat) (s : Store) (i : Item) :
    (∃ e, check P i = some e ∧ Wrapper.put P now s i = (s, some e)) ∨
    (∃ st e, check P i = none ∧ s (target P i) = some st ∧ checkIncomingWith P.casSpec st.item i = some e ∧
        Wrapper.put P now s i = (s, some e)) ∨
    (check P i = none ∧ Admits P s i ∧ Wrapper.put P now s i = (s.set (target P i) ⟨i, now⟩, none)) := by
  fun_cases Wrapper.put P now s i
  case case1 e hc => exact Or.inl ⟨e, hc, rfl⟩ -- `check` refuses
  case case2 hc hs => -- nothing stored under the target
    exact Or.inr (Or.inr ⟨hc, fun st h => (by rw [hs] at h; cases h), rfl⟩)
  case case3 hc st hs e hi => exact Or.inr (Or.inl ⟨st, e, hc, hs, hi, rfl⟩) -- `CheckIncoming` refuses
  case case4 hc st hs hi => -- `CheckIncoming` lets it replace `st`
    exact Or.inr (Or.inr ⟨hc, fun st' h => (by rw [hs] at h; cases h; exact hi), rfl⟩)

theorem Wrapper.put_rejected_pure (P : Params) (now : Nat) (s : Store) (i : Item)
    (h : (Wrapper.put P now s i).2 ≠ none) : (Wrapper.put P now s i).1 = s := by
  rcases Wrapper.put_cases P now s i with ⟨e, _, h'⟩ | ⟨st, e, _, _, _, h'⟩ | ⟨_, _, h'⟩
  · rw [h']
  · rw [h']
  · rw [h'] at h; exact absurd rfl h

theorem Wrapper.put_at (P : Params) (now : Nat) (s : Store) (i : Item) (t : Target) :
    (Wrapper.put P now s i).1 t = s t ∨
    (t = target P i ∧ check P i = none ∧ Admits P s i ∧ (Wrapper.put P now s i).1 t = some ⟨i, now⟩) := by
  rcases Wrapper.put_cases P now s i with ⟨e, _, h⟩ | ⟨st, e, _, _, _, h⟩ | ⟨hc, ha, h⟩ <;> rw [h]
  · exact Or.inl rfl
  · exact Or.inl rfl
  · by_cases ht : t = target P i
    · exact Or.inr ⟨ht, hc, ha, by rw [ht]; exact Store.set_same ..⟩
    · exact Or.inl (Store.set_other ht)

theorem Wrapper.get_none {s : Store} {t : Target} (exp now : Nat) (hs : s t = none) :
    Wrapper.get exp now s t = (s, none) := by
  unfold Wrapper.get; rw [hs]

theorem Wrapper.get_fresh {exp now : Nat} {s : Store} {t : Target} {e : Entry} (hs : s t = some e)
    (hf : now < e.created + exp) : Wrapper.get exp now s t = (s, some e.item) := by
  unfold Wrapper.get Entry.fresh; rw [hs]; simp [hf]

theorem Wrapper.get_expired {exp now : Nat} {s : Store} {t : Target} {e : Entry} (hs : s t = some e)
    (hx : e.created + exp ≤ now) : Wrapper.get exp now s t = (s.del t, none) := by
  unfold Wrapper.get Entry.fresh; rw [hs]; simp [Nat.not_lt.mpr hx]

/-- What the inbound `get` answers when `Wrapper.get` hands it item `i`. -/
def answer : Option Int → Item → GetReply
  | some a, i => if i.seq ≤ a then .seqOnly i.seq else .full i
  | none, i => .full i

theorem answer_full {a : Option Int} {i j : Item} (h : answer a i = .full j) : i = j := by
  revert h
  fun_cases answer a i <;> intro h <;> cases h <;> rfl

theorem answer_seqOnly {a : Option Int} {i : Item} {q : Int} (h : answer a i = .seqOnly q) : i.seq = q := by
  revert h
  fun_cases answer a i <;> intro h <;> cases h <;> rfl

theorem handleGet_eq (exp now : Nat) (s : Store) (t : Target) (a : Option Int) :
    handleGet exp now s t a =
      ((Wrapper.get exp now s t).1, match (Wrapper.get exp now s t).2 with
        | none => .notFound
        | some i => answer a i) := by
  unfold handleGet
  rcases Wrapper.get exp now s t with ⟨s', _ | i⟩
  · rfl
  · cases a with
    | none => rfl
    | some a => simp only [answer]; split <;> rfl

theorem get_cases (exp now : Nat) (s : Store) (t : Target) (a : Option Int) :
    (s t = none ∧ Wrapper.get exp now s t = (s, none) ∧ handleGet exp now s t a = (s, .notFound)) ∨
    (∃ e, s t = some e ∧ e.created + exp ≤ now ∧
        Wrapper.get exp now s t = (s.del t, none) ∧ handleGet exp now s t a = (s.del t, .notFound)) ∨
    (∃ e, s t = some e ∧ now < e.created + exp ∧
        Wrapper.get exp now s t = (s, some e.item) ∧ handleGet exp now s t a = (s, answer a e.item)) := by
  rw [handleGet_eq]
  fun_cases Wrapper.get exp now s t
  case case1 hs => exact Or.inl ⟨hs, rfl, rfl⟩ -- nothing stored
  case case2 e hs hf => exact Or.inr (Or.inr ⟨e, hs, of_decide_eq_true hf, rfl, rfl⟩) -- fresh
  case case3 e hs hf => -- expired
    exact Or.inr (Or.inl ⟨e, hs, Nat.le_of_not_gt fun hlt => hf (decide_eq_true hlt), rfl, rfl⟩)

theorem St.step_at (P : Params) (exp : Nat) (s : St) (ev : Ev) (t : Target) :
    (s.step P exp ev).store t = s.store t ∨
    (∃ i, ev = .put i ∧ t = target P i ∧ check P i = none ∧ Admits P s.store i ∧
        (s.step P exp ev).store t = some ⟨i, s.now⟩) ∨
    (∃ q e, ev = .get t q ∧ s.store t = some e ∧ e.created + exp ≤ s.now ∧ (s.step P exp ev).store t = none) := by
  cases ev with
  | advance d => exact Or.inl rfl
  | put i => exact (Wrapper.put_at P s.now s.store i t).imp_right fun ⟨ht, hc, ha, h⟩ => .inl ⟨i, rfl, ht, hc, ha, h⟩
  | get t0 q =>
    simp only [St.step]
    rcases get_cases exp s.now s.store t0 q with ⟨_, _, h⟩ | ⟨e, hs, hx, _, h⟩ | ⟨e, _, _, _, h⟩
    · rw [h]; exact Or.inl rfl
    · rw [h]
      by_cases ht : t = t0
      · subst ht; exact Or.inr (Or.inr ⟨q, e, rfl, hs, hx, Store.del_same ..⟩)
      · exact Or.inl (Store.del_other ht)
    · rw [h]; exact Or.inl rfl

/-- How one target's entry may change in one step at clock `now`: the sequence number does
not go down, and the entry disappears only once it has expired. -/
def SeqStep (exp now : Nat) (s s' : Store) (t : Target) : Prop :=
  ∀ a, s t = some a →
    match s' t with
    | some b => a.item.seq ≤ b.item.seq
    | none => a.created + exp ≤ now

theorem SeqStep.refl (exp now : Nat) (s : Store) (t : Target) : SeqStep exp now s s t := by
  intro a ha; rw [ha]; exact Int.le_refl _

theorem St.step_seqStep (P : Params) (exp : Nat) (s : St) (ev : Ev) (t : Target) :
    SeqStep exp s.now s.store (s.step P exp ev).store t := by
  intro a ha
  rcases St.step_at P exp s ev t with h | ⟨i, _, ht, _, hadm, h⟩ | ⟨_, e, _, hs, hx, h⟩
  · rw [h, ha]; exact Int.le_refl _
  · rw [h]; exact (checkIncomingWith_none_forward (hadm a (ht ▸ ha))).1
  · rw [h]; rw [ha] at hs; cases hs; exact hx

theorem Wrapper.put_seqStep (P : Params) (exp now : Nat) (s : Store) (i : Item) (t : Target) :
    SeqStep exp now s (Wrapper.put P now s i).1 t :=
  St.step_seqStep P exp ⟨s, now⟩ (.put i) t

theorem St.run_cons (P : Params) (exp : Nat) (s : St) (ev : Ev) (evs : List Ev) :
    s.run P exp (ev :: evs) = (s.step P exp ev).run P exp evs := rfl

theorem St.run_append (P : Params) (exp : Nat) (s : St) (a b : List Ev) :
    s.run P exp (a ++ b) = (s.run P exp a).run P exp b := by
  unfold St.run; exact List.foldl_append ..

theorem St.step_now_le (P : Params) (exp : Nat) (s : St) (ev : Ev) : s.now ≤ (s.step P exp ev).now := by
  cases ev <;> simp [St.step]

end Dht.B44
