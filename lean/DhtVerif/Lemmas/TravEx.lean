/- A concrete lookup, used by the non-vacuity examples of Props/C04, C02 and C16

Target 0^160, K = 2, Alpha = 2, a node filter that rejects port 1. Four seeds
(one of them filtered); the first reply lists address 10.0.0.4 under two IDs,
an address that is already being queried, and a filtered node. -/
import DhtVerif.Model.Traversal
namespace Dht

namespace TravEx

def nid (b : UInt8) : Id := List.replicate 19 0 ++ [b]
def addr (b : UInt8) (port : Nat := 6881) : Addr := ⟨1, [10, 0, 0, b], port⟩

def cfg : TravCfg :=
  { target := List.replicate 20 0, k := 2, alpha := 2, nodeFilter := fun n => n.addr.port != 1 }

def r1 : QResult :=
  { responder := some (nid 3)
    data := some [1]
    nodes := [⟨some (nid 1), addr 4⟩, ⟨some (nid 4), addr 4⟩, ⟨some (nid 6), addr 2⟩,
              ⟨some (nid 0), addr 8 1⟩] }

def evs : List TravEv := [
  .addNodes [⟨some (nid 3), addr 1⟩, ⟨some (nid 5), addr 2⟩, ⟨some (nid 7), addr 3⟩,
             ⟨some (nid 2), addr 9 1⟩],
  .runEval,
  .queryReturn (addr 1) r1,
  .addClosest (addr 1), .addReplyNodes (addr 1), .addReplyNodes6 (addr 1), .finish (addr 1),
  .runWake .broadcast, .runEval,
  .queryReturn (addr 2) { responder := some (nid 5) },
  .addClosest (addr 2), .addReplyNodes (addr 2), .addReplyNodes6 (addr 2), .finish (addr 2),
  .runWake .broadcast, .runEval,
  .queryReturn (addr 4) { responder := some (nid 1), data := some [2] },
  .addClosest (addr 4), .addReplyNodes (addr 4), .addReplyNodes6 (addr 4), .finish (addr 4),
  .runWake .broadcast, .runEval ]

end TravEx

end Dht
