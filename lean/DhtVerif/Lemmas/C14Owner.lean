/-
Soundness of the ownership analysis: a post-fixpoint table contains the abstract state of
every path, so a table without violating (node, state) pairs means that no path violates.
-/
import DhtVerif.Model.Owner
namespace Dht.Own

theorem closed_sound {cx : Ctx} {c : Cfg} {init : Abs} {m : Table} (h : closed cx c init m = true)
    {i : Nat} {s : Abs} (hp : PathTo cx c init i s) : s ∈ m.at i := by
  unfold closed at h
  simp only [Bool.and_eq_true, List.all_eq_true] at h
  obtain ⟨h0, hstep⟩ := h
  induction hp with
  | entry => exact List.contains_iff_mem.mp h0
  | step _ hn hid hs' hj ih =>
    subst hid
    exact List.contains_iff_mem.mp (hstep _ hn _ ih _ hs' _ hj)

theorem violation_excluded {c : Cfg} {m : Table} {ex : Nat × Abs → Bool}
    (h : (violationsIn c m).all ex = true) {n : Node} (hn : n ∈ c.nodes)
    {s : Abs} (hs : s ∈ m.at n.id) : nodeOk n s = true ∨ ex (n.id, s) = true := by
  cases hok : nodeOk n s with
  | true => exact Or.inl rfl
  | false =>
    right
    rw [List.all_eq_true] at h
    apply h
    unfold violationsIn
    rw [List.mem_flatMap]
    refine ⟨n, hn, ?_⟩
    rw [List.mem_map]
    refine ⟨s, ?_, rfl⟩
    rw [List.mem_filter]
    exact ⟨hs, by simp [hok]⟩

theorem no_violation_ok (c : Cfg) (m : Table) (h : violationsIn c m = []) (n : Node) (hn : n ∈ c.nodes)
    (s : Abs) (hs : s ∈ m.at n.id) : nodeOk n s = true :=
  (violation_excluded (ex := fun _ => false) (by rw [h]; rfl) hn hs).resolve_right nofun

end Dht.Own
