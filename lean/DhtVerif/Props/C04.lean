/-
C04 — lookup query discipline: bounded fan-out, once per address, filter first.
Theorems over `DhtVerif/Model/Traversal.lean`, for every history of events
(every order in which queries return, late AddNodes, Stop) from the initial state.
-/
import DhtVerif.Model.Traversal
import DhtVerif.Lemmas.C04
import DhtVerif.Lemmas.TravEx
namespace Dht

/-- Never more than Alpha queries in flight; the counter equals the number of query goroutines. -/
theorem C04.inflight_le_alpha (c : TravCfg) (evs : List TravEv) (s : Trav)
    (h : Trav.exec c {} evs = some s) :
    s.outstanding ≤ c.alpha ∧ s.inflight.length = s.outstanding :=
  ⟨(Trav.Disc.exec h).out_le, (Trav.Core.exec h).outEq.symm⟩

/-- No address (as the `queried` map keys it) is the subject of two queries,
however many times and under however many IDs it was reported. -/
theorem C04.queried_once (c : TravCfg) (evs : List TravEv) (s : Trav)
    (h : Trav.exec c {} evs = some s) : (s.started.map Addr.strKey).Nodup := by
  have hc := Trav.Core.exec h
  exact hc.queriedEq ▸ hc.nodup

/-- Every address queried was reported by a candidate that passed the node
filter; an address the filter rejects under every ID is never queried. -/
theorem C04.never_query_filtered (c : TravCfg) (evs : List TravEv) (s : Trav)
    (h : Trav.exec c {} evs = some s) :
    ∀ a ∈ s.started, ∃ n : Cand, n.addr = a ∧ c.nodeFilter n = true :=
  (Trav.Disc.exec h).started_ok

/-- Every address queried is recorded as queried, and only such addresses are. -/
theorem C04.started_eq_queried (c : TravCfg) (evs : List TravEv) (s : Trav)
    (h : Trav.exec c {} evs = some s) : s.queried = s.started.map Addr.strKey :=
  (Trav.Core.exec h).queriedEq.symm

def idxIn (l : List String) (x : String) : Nat := l.findIdx (· == x)

/-- T1: in `startQuery` the candidate is marked queried before the goroutine is
launched; the goroutine installs a watcher that cancels the query's context
when the operation is stopping, before `DoQuery` is called; the run loop
starts queries only under `op.outstanding < op.input.Alpha`. -/
theorem C04.source_structure :
    idxIn Gen.evStartQuery "op.markQueried" < idxIn Gen.evStartQuery "go" ∧
    idxIn Gen.evStartQuery "recv:op.stopping.Done()" < idxIn Gen.evStartQuery "op.input.DoQuery" ∧
    Gen.evStartQuery.getD (idxIn Gen.evStartQuery "recv:op.stopping.Done()" + 1) "" = "cancel" ∧
    idxIn Gen.evStartQuery "op.input.DoQuery" < Gen.evStartQuery.length ∧
    Gen.traversalStartSites.length = 4 := by
  decide +kernel

/-- The contrapositive of `never_query_filtered`. -/
theorem C04.rejected_never_queried (c : TravCfg) (evs : List TravEv) (s : Trav)
    (h : Trav.exec c {} evs = some s) (a : Addr)
    (hrej : ∀ n : Cand, n.addr = a → c.nodeFilter n = false) : a ∉ s.started := by
  intro ha
  obtain ⟨n, hn, hf⟩ := C04.never_query_filtered c evs s h a ha
  rw [hrej n hn] at hf
  cases hf

/-- The fuel given to `startLoop` in `runEval` suffices: when the modelled loop ends, the Go loop
condition `op.outstanding < Alpha && op.haveQuery()` is false (the model never stops early). -/
theorem C04.startLoop_fuel_suffices (c : TravCfg) (s : Trav) :
    ¬ ((Trav.startLoop c (s.unq.length + 1) s).outstanding < c.alpha ∧
       (Trav.startLoop c (s.unq.length + 1) s).haveQuery c = true) :=
  fun ⟨h1, h2⟩ => Bool.false_ne_true ((Trav.startLoop_done c _ s (Nat.lt_succ_self _) h1).symm.trans h2)

/-! ## Non-vacuity: a concrete lookup (`TravEx` in Lemmas/TravEx) -/

/-- The history is executable, and queries exactly 10.0.0.1, 10.0.0.2, 10.0.0.4 — the last one once,
although it was listed under two IDs; 10.0.0.3 is never needed (the closest set is full of nearer
nodes); the two port-1 nodes are filtered. -/
example : (Trav.exec TravEx.cfg {} TravEx.evs).map (·.started) =
    some [TravEx.addr 1, TravEx.addr 2, TravEx.addr 4] := by decide +kernel

/-- After the first `runEval`, Alpha = 2 queries are in flight and the third seed waits. -/
example : (Trav.exec TravEx.cfg {} (TravEx.evs.take 2)).map (fun s => (s.outstanding, s.inflight.length, s.unq.length)) =
    some (2, 2, 1) := by decide +kernel

/-- Mid-history (after the first reply's nodes were added, before its `finish`): both IDs of 10.0.0.4 sit
in the frontier, the filtered and the already-queried node do not. -/
example : (Trav.exec TravEx.cfg {} (TravEx.evs.take 5)).map (fun s => s.unq.map (·.id)) =
    some [some (TravEx.nid 1), some (TravEx.nid 4), some (TravEx.nid 7)] := by decide +kernel

example : (Trav.exec TravEx.cfg {} TravEx.evs).map (fun s => (s.outstanding, s.inflight.length, s.queried)) =
    some (0, 0, [TravEx.addr 1, TravEx.addr 2, TravEx.addr 4]) := by decide +kernel

end Dht
