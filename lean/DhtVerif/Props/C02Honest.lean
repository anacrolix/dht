/-
C02 (last sentence) — "If every contacted node answers with the true K closest
nodes of a finite network, the result is exactly the K closest nodes of that
network."

A lookup is *finished* when the run loop sleeps on the current generation offering the
stalled signal, nothing is mid-completion and it is not stopping (the situation of
`C03.stalled_means_exhausted`). "The run has started" is stated as: some `queryReturn` event
occurs in the history (the core form takes the weaker `s.started ≠ []`: somebody was contacted).
-/
import DhtVerif.Model.Traversal
import DhtVerif.Props.C02
import DhtVerif.Lemmas.C02Honest
import DhtVerif.Lemmas.C03Wake
import DhtVerif.Lemmas.C02HonestCheck
namespace Dht

/-- A query is "mid-completion" between its `addClosest` and its deferred finish
(the same definition as `midCompletion` of Props/C03). -/
def C02.midCompletion (s : Trav) : Bool :=
  s.inflight.any (fun e => match e.2 with
    | .closestDone _ => true | .nodesDone _ => true | .nodes6Done => true | _ => false)

/-- A well-formed network has exactly `min k |net|` K-closest nodes. -/
theorem C02.kClosest_length (net : List NetNode) (hwf : NetWF net) (t : Id) (ht : t.length = 20)
    (k : Nat) : (kClosest t k net).length = min k net.length :=
  Dht.kClosest_length hwf t ht k

/-- They are network nodes, none twice, and every other network node is strictly farther
from the target than each of them. -/
theorem C02.kClosest_nearest (net : List NetNode) (hwf : NetWF net) (t : Id) (k : Nat) :
    (∀ n ∈ kClosest t k net, n ∈ net) ∧ (kClosest t k net).Nodup ∧
    (∀ n ∈ kClosest t k net, ∀ m ∈ net, m ∉ kClosest t k net → netDist t n < netDist t m) := by
  refine ⟨kClosest_sub, kClosest_nodup t k net hwf.nodup, ?_⟩
  intro n hn m hm hmk
  apply Classical.byContradiction
  intro hlt
  have h1 := (mem_kClosest.mp hn).2
  have h2 : ¬ (closerNodes t net m).length < k := fun h => hmk (mem_kClosest.mpr ⟨hm, h⟩)
  have hnd : (closerNodes t net m).Nodup := hwf.nodup.sublist List.filter_sublist
  have := hnd.length_le_of_subset (l₂ := closerNodes t net n) (fun x hx => by
    obtain ⟨hx1, hx2⟩ := mem_closerNodes.mp hx
    exact mem_closerNodes.mpr ⟨hx1, by omega⟩)
  omega

/-- They are the first `k` nodes of the network sorted by distance. -/
theorem C02.kClosest_eq_take_sorted (net : List NetNode) (hwf : NetWF net) (t : Id)
    (ht : t.length = 20) (k : Nat) (n : NetNode) :
    n ∈ kClosest t k net ↔ n ∈ (sortByDist t net).take k :=
  mem_kClosest_iff_take hwf t ht k n

/-- Core form, independent of how quiescence is observed: in any reachable state of an
honestly answered lookup in which no query is in flight, no query can be started and somebody
was contacted, the closest set holds exactly the K closest nodes of the network. -/
theorem C02.honest_network_exact_quiescent (c : TravCfg) (net : List NetNode)
    (ht : c.target.length = 20) (hwf : NetWF net)
    (hnf : ∀ n ∈ net, c.nodeFilter n.cand = true)
    (evs : List TravEv) (s : Trav) (hh : HonestHist c net evs)
    (h : Trav.exec c {} evs = some s)
    (hidle : s.inflight = []) (hq : s.haveQuery c = false) (hstarted : s.started ≠ []) :
    (∀ n, n ∈ kClosest c.target c.k net ↔ n ∈ closestNodes s) ∧
    s.closest.length = min c.k net.length ∧
    closestNodes s = (sortByDist c.target net).take c.k := by
  have hsub := honest_kClosest_sub hwf ht hnf evs s hh h hidle hq hstarted
  -- the members are pairwise different network nodes, at most `k`
  have hI := Trav.HInv.exec ht hnf hh h
  have hK := C18.knn_invariant _ _ _ _ (C02.reach c evs s h)
  have hclnet : ∀ x ∈ closestNodes s, x ∈ net := by
    intro x hx
    obtain ⟨m, hm, rfl⟩ := List.mem_map.mp hx
    exact hI.hist_net m (KNN.mem_latest_imp _ m (hK.sub m hm))
  have hnd : (closestNodes s).Nodup := closestPairs_nodup s.closest hK.nodupS
  have hlen_map : (closestNodes s).length = s.closest.length := List.length_map _
  have hle_k : s.closest.length ≤ c.k := (C02.closest_le_K c evs s h).1
  have hle_net : (closestNodes s).length ≤ net.length := hnd.length_le_of_subset hclnet
  have hkc_nd := kClosest_nodup c.target c.k net hwf.nodup
  have hkc_len := Dht.kClosest_length hwf c.target ht c.k
  have hle : (closestNodes s).length ≤ (kClosest c.target c.k net).length :=
    hkc_len ▸ Nat.le_min.mpr ⟨hlen_map ▸ hle_k, hle_net⟩
  have hiff : ∀ n, n ∈ kClosest c.target c.k net ↔ n ∈ closestNodes s :=
    fun n => ⟨hsub n, subset_of_nodup_of_length_le hkc_nd hsub hle n⟩
  refine ⟨hiff, hkc_len ▸ hlen_map ▸ Nat.le_antisymm hle (hkc_nd.length_le_of_subset hsub), ?_⟩
  -- a permutation of the first `k` of the sorted network, itself in distance order; distances are pairwise different
  have hperm := sortByDist_perm c.target net
  refine List.Perm.eq_of_pairwise (le := fun a b => netDist c.target a ≤ netDist c.target b) ?_
    (List.pairwise_map.mpr hK.sorted) ((pairwise_sortByDist c.target net).sublist (List.take_sublist _ _))
    (((List.perm_ext_iff_of_nodup hnd hkc_nd).mpr (fun n => (hiff n).symm)).trans
      (kClosest_perm_take hwf c.target ht c.k))
  intro a b ha hb h1 h2
  exact hwf.eq_of_dist c.target ht a b (hclnet a ha) (hperm.mem_iff.mp (List.mem_of_mem_take hb))
    (Nat.le_antisymm h1 h2)

/-- The finished state used below is the quiescent one (by the invariant behind `C03.no_lost_wakeup`):
nothing in flight, no query startable. -/
theorem C02.finished_is_quiescent (c : TravCfg) (hsig : c.sigBeforeUnlock = true) (halpha : c.alpha > 0)
    (evs : List TravEv) (s : Trav) (h : Trav.exec c {} evs = some s)
    (g : Nat) (hrun : s.run = .sleeping g true) (hgen : s.gen = g) (hstop : s.stopping = false)
    (hmid : C02.midCompletion s = false) : s.inflight = [] ∧ s.haveQuery c = false := by
  obtain ⟨hq, hout⟩ := (Trav.Wake.exec hsig h).stalled halpha hrun hgen hstop hmid
  exact ⟨List.eq_nil_of_length_eq_zero ((Trav.Core.exec h).outEq ▸ hout), hq⟩

/-- A query that returned had been started (so the hypothesis `s.started ≠ []` of the core form is
implied by "at least one query returned"). -/
theorem C02.started_of_returned (c : TravCfg) (evs : List TravEv) (s : Trav)
    (h : Trav.exec c {} evs = some s) (a : Addr) (r : QResult)
    (hr : TravEv.queryReturn a r ∈ evs) : s.started ≠ [] :=
  List.ne_nil_of_mem (Trav.started_of_returned (Trav.Core.init c) h hr)

/-- **C02, last sentence.** A finite well-formed network, a 20-byte target, filters that accept the
network; a history in which every contacted node answers honestly (its true ID, and node lists
containing the true K closest nodes of the network). When the lookup is finished — the run loop
sleeps on the current generation offering stalled, nothing mid-completion, not stopping — and at
least one query returned, its result is exactly the K closest nodes of the network: the same nodes,
`min K |net|` of them, listed in distance order. -/
theorem C02.honest_network_exact (c : TravCfg) (net : List NetNode)
    (hsig : c.sigBeforeUnlock = true) (halpha : c.alpha > 0)
    (ht : c.target.length = 20) (hwf : NetWF net)
    (hnf : ∀ n ∈ net, c.nodeFilter n.cand = true)
    (evs : List TravEv) (s : Trav) (hh : HonestHist c net evs)
    (h : Trav.exec c {} evs = some s)
    (g : Nat) (hrun : s.run = .sleeping g true) (hgen : s.gen = g) (hstop : s.stopping = false)
    (hmid : C02.midCompletion s = false) (hret : ∃ a r, TravEv.queryReturn a r ∈ evs) :
    (∀ n, n ∈ kClosest c.target c.k net ↔ n ∈ closestNodes s) ∧
    s.closest.length = min c.k net.length ∧
    closestNodes s = (sortByDist c.target net).take c.k := by
  obtain ⟨hidle, hq⟩ := C02.finished_is_quiescent c hsig halpha evs s h g hrun hgen hstop hmid
  obtain ⟨a, r, hr⟩ := hret
  exact C02.honest_network_exact_quiescent c net ht hwf hnf evs s hh h hidle hq
    (C02.started_of_returned c evs s h a r hr)

/-- The literal reading as a special case: seeds name network nodes (with their true ID or
without ID) and every reply lists exactly the K closest nodes of the network. -/
theorem C02.honest_network_exact_literal (c : TravCfg) (net : List NetNode)
    (hsig : c.sigBeforeUnlock = true) (halpha : c.alpha > 0)
    (ht : c.target.length = 20) (hwf : NetWF net)
    (hnf : ∀ n ∈ net, c.nodeFilter n.cand = true)
    (evs : List TravEv) (s : Trav) (hh : ExactHist c net evs)
    (h : Trav.exec c {} evs = some s)
    (g : Nat) (hrun : s.run = .sleeping g true) (hgen : s.gen = g) (hstop : s.stopping = false)
    (hmid : C02.midCompletion s = false) (hret : ∃ a r, TravEv.queryReturn a r ∈ evs) :
    (∀ n, n ∈ kClosest c.target c.k net ↔ n ∈ closestNodes s) ∧
    s.closest.length = min c.k net.length ∧
    closestNodes s = (sortByDist c.target net).take c.k :=
  C02.honest_network_exact c net hsig halpha ht hwf hnf evs s (ExactHist.honest hwf hh) h g hrun hgen
    hstop hmid hret

/-! ## Non-vacuity

Target 0^160, K = 2, Alpha = 2. Four nodes at distances 1, 2, 4, 7. The lookup is seeded with
the farthest node only (without its ID). It answers with the two closest nodes, one in `nodes`,
one in `nodes6`; both are queried and answer with the same two nodes (the other way round). The
node at distance 4 is never contacted. -/

namespace C02.HonestEx

def nid (b : UInt8) : Id := List.replicate 19 0 ++ [b]
def addr (b : UInt8) : Addr := ⟨1, [10, 0, 0, b], 6881⟩

def nA : NetNode := (nid 1, addr 1)
def nB : NetNode := (nid 2, addr 2)
def nC : NetNode := (nid 4, addr 3)
def nD : NetNode := (nid 7, addr 4)

def net : List NetNode := [nD, nB, nC, nA]

def cfg : TravCfg := { target := List.replicate 20 0, k := 2, alpha := 2 }

def reply (n : NetNode) (tok : UInt8) (l l6 : List Cand) : QResult :=
  { responder := some n.1, data := some [tok], nodes := l, nodes6 := l6 }

def roundTrip (n : NetNode) (r : QResult) : List TravEv :=
  [.queryReturn n.2 r, .addClosest n.2, .addReplyNodes n.2, .addReplyNodes6 n.2, .finish n.2]

def evs : List TravEv :=
  [.addNodes [⟨none, nD.2⟩], .runEval] ++
  roundTrip nD (reply nD 9 [nA.cand] [nB.cand]) ++
  [.runWake .broadcast, .runEval] ++
  roundTrip nB (reply nB 8 [nB.cand, nA.cand] []) ++
  roundTrip nA (reply nA 7 [] [nA.cand, nB.cand]) ++
  [.runWake .broadcast, .runEval]

def sFin : Trav := (Trav.exec cfg {} evs).getD {}

theorem wf : NetWF net := ⟨by decide +kernel, by decide +kernel, by decide +kernel, by decide +kernel⟩

example : kClosest cfg.target cfg.k net = [nB, nA] := by decide +kernel

theorem honest : HonestHist cfg net evs := honestHistB_sound cfg net evs (by decide +kernel)

-- by evaluation, `getD` naming the final state: see the note in Props/C03
theorem run : Trav.exec cfg {} evs = some sFin := (Option.getD_of_ne_none (by decide +kernel) _).symm

theorem finished : sFin.run = .sleeping 6 true ∧ sFin.gen = 6 ∧ sFin.stopping = false ∧
    C02.midCompletion sFin = false := by decide +kernel

/-- The hypotheses of `C02.honest_network_exact` hold at the final state… -/
example : sFin.run = .sleeping 6 true ∧ sFin.gen = 6 ∧ sFin.stopping = false ∧
    C02.midCompletion sFin = false ∧ sFin.started = [addr 4, addr 1, addr 2] :=
  ⟨finished.1, finished.2.1, finished.2.2.1, finished.2.2.2, by decide +kernel⟩

/-- …and so does its conclusion: the closest set is the two nearest nodes, nearest first
(the seed at distance 7 answered and was pushed out; the node at distance 4 was never asked). -/
example : sFin.closest = [⟨nid 1, addr 1, some [7]⟩, ⟨nid 2, addr 2, some [8]⟩] := by decide +kernel

example : (∀ n, n ∈ kClosest cfg.target cfg.k net ↔ n ∈ closestNodes sFin) ∧
    sFin.closest.length = min cfg.k net.length ∧
    closestNodes sFin = (sortByDist cfg.target net).take cfg.k :=
  C02.honest_network_exact cfg net rfl (by decide) rfl wf (fun _ _ => rfl) evs sFin honest run 6
    finished.1 finished.2.1 finished.2.2.1 finished.2.2.2
    ⟨nD.2, reply nD 9 [nA.cand] [nB.cand], List.mem_of_getElem? (i := 2) rfl⟩

/-- The history is also an instance of the literal reading: the seed names a network node (without
ID) and each of the three replies lists exactly the two closest nodes. -/
theorem exact : ExactHist cfg net evs := exactHistB_sound cfg net evs (by decide +kernel)

example : closestNodes sFin = (sortByDist cfg.target net).take cfg.k :=
  (C02.honest_network_exact_literal cfg net rfl (by decide) rfl wf (fun _ _ => rfl) evs sFin exact run 6
    finished.1 finished.2.1 finished.2.2.1 finished.2.2.2
    ⟨nD.2, reply nD 9 [nA.cand] [nB.cand], List.mem_of_getElem? (i := 2) rfl⟩).2.2

/-- A history that is honest in the general sense only: the seed carries a wrong (but well-formed)
ID and a reply lists the node at distance 4 as well; the result is the same. -/
def evs' : List TravEv :=
  [.addNodes [⟨some (nid 0), nD.2⟩], .runEval] ++
  roundTrip nD (reply nD 9 [nA.cand, nC.cand] [nB.cand]) ++
  [.runWake .broadcast, .runEval] ++
  roundTrip nB (reply nB 8 [nB.cand, nA.cand] []) ++
  roundTrip nA (reply nA 7 [] [nA.cand, nB.cand]) ++
  [.runWake .broadcast, .runEval]

example : honestHistB cfg net evs' = true ∧ exactHistB cfg net evs' = false := by decide +kernel

example : (Trav.exec cfg {} evs').map (fun s => (closestNodes s, s.unq)) =
    some ([nA, nB], [nC.cand]) := by decide +kernel

/-- "At least one query returned" is needed: a lookup that is given no contacts finishes at once
with an empty result (the empty history is honest). -/
def sNone : Trav := (Trav.exec cfg {} [.runEval]).getD {}
example : Trav.exec cfg {} [.runEval] = some sNone := (Option.getD_of_ne_none (by decide +kernel) _).symm
example : sNone.run = .sleeping 0 true ∧ sNone.gen = 0 ∧ sNone.stopping = false ∧
    C02.midCompletion sNone = false ∧ sNone.started = [] ∧ closestNodes sNone = [] := by decide +kernel

end C02.HonestEx

end Dht
