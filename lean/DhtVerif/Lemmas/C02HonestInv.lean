/- The invariant of honestly answered lookups. -/
import DhtVerif.Lemmas.C02HonestNet
namespace Dht

def QPhase.res : QPhase → Option QResult
  | .returned r => some r
  | .closestDone r => some r
  | .nodesDone r => some r
  | _ => none

/-- The candidate is accounted for: its address was queried, or it waits in the frontier. -/
def Trav.has (s : Trav) (x : Cand) : Prop := x.addr.strKey ∈ s.queried ∨ x ∈ s.unq

/-- Every one of the K closest nodes of the network is accounted for (with its true ID). -/
def Trav.covers (c : TravCfg) (net : List NetNode) (s : Trav) : Prop :=
  ∀ n ∈ kClosest c.target c.k net, s.has n.cand

/-- `s'` accounts for every candidate that `s` accounts for (`Trav.has`): a queried address stays queried, a candidate
of the frontier stays there or has been queried. -/
structure Trav.Grow (s s' : Trav) : Prop where
  q : ∀ k ∈ s.queried, k ∈ s'.queried
  u : ∀ x ∈ s.unq, s'.has x

theorem Trav.Grow.refl (s : Trav) : Trav.Grow s s := ⟨fun _ h => h, fun _ h => Or.inr h⟩

theorem Trav.Grow.has {s s' : Trav} (g : Trav.Grow s s') {x : Cand} (h : s.has x) : s'.has x := by
  rcases h with h | h
  · exact Or.inl (g.q _ h)
  · exact g.u x h

theorem Trav.Grow.trans {s s' s'' : Trav} (g : Trav.Grow s s') (g' : Trav.Grow s' s'') :
    Trav.Grow s s'' :=
  ⟨fun k h => g'.q k (g.q k h), fun x h => g'.has (g.u x h)⟩

theorem Trav.Grow.covers {c : TravCfg} {net : List NetNode} {s s' : Trav} (g : Trav.Grow s s')
    (h : s.covers c net) : s'.covers c net := fun n hn => g.has (h n hn)

theorem Trav.Grow.of_eq {s s' : Trav} (hu : s'.unq = s.unq) (hq : s'.queried = s.queried) :
    Trav.Grow s s' :=
  ⟨fun k h => by rw [hq]; exact h, fun x h => Or.inr (by rw [hu]; exact h)⟩

abbrev SortedU (c : TravCfg) (l : List Cand) : Prop :=
  l.Pairwise (fun a b => closerThan c.target a b = true)

/-- State `s` of an honestly answered lookup in the network `net`; `hist` is what was offered to the closest set so far.
Every goroutine past `DoQuery` carries an honest reply, and once one has absorbed both node lists the K closest nodes of
`net` are accounted for. `cov` is a disjunction because nothing is known before that: then every query started is in flight. -/
structure Trav.HInv (c : TravCfg) (net : List NetNode) (hist : List KElem) (s : Trav) : Prop where
  unq_ok : ∀ x ∈ s.unq, x.ok'
  unq_sorted : SortedU c s.unq
  hist_net : ∀ m ∈ hist, (m.id, m.addr) ∈ net
  honest : ∀ e ∈ s.inflight, ∀ r, e.2.res = some r → HonestReply c net e.1 r
  resp_past : ∀ e ∈ s.inflight, e.2.past = true → ∃ m ∈ hist, m.addr = e.1
  resp_started : ∀ a ∈ s.started, a ∈ s.inflight.map Prod.fst ∨ ∃ m ∈ hist, m.addr = a
  cov_nodes : ∀ e ∈ s.inflight, ∀ r, e.2 = .nodesDone r →
    ∀ n ∈ kClosest c.target c.k net, n.cand ∈ r.nodes → s.has n.cand
  cov_n6 : ∀ e ∈ s.inflight, e.2 = .nodes6Done → s.covers c net
  cov : s.covers c net ∨ ∀ a ∈ s.started, a ∈ s.inflight.map Prod.fst

theorem Trav.HInv.init (c : TravCfg) (net : List NetNode) : Trav.HInv c net [] {} := by
  refine ⟨?_, .nil, ?_, ?_, ?_, ?_, ?_, ?_, .inr ?_⟩ <;> exact fun _ h => absurd h List.not_mem_nil

/-- What the invariant asks of one query goroutine. -/
structure Trav.HInv.Entry (c : TravCfg) (net : List NetNode) (hist : List KElem) (s : Trav) (e : Addr × QPhase) :
    Prop where
  honest : ∀ r, e.2.res = some r → HonestReply c net e.1 r
  resp_past : e.2.past = true → ∃ m ∈ hist, m.addr = e.1
  cov_nodes : ∀ r, e.2 = .nodesDone r → ∀ n ∈ kClosest c.target c.k net, n.cand ∈ r.nodes → s.has n.cand
  cov_n6 : e.2 = .nodes6Done → s.covers c net

theorem Trav.HInv.entry {c : TravCfg} {net : List NetNode} {hist : List KElem} {s : Trav}
    (h : Trav.HInv c net hist s) {e : Addr × QPhase} (he : e ∈ s.inflight) : Trav.HInv.Entry c net hist s e :=
  ⟨h.honest e he, h.resp_past e he, h.cov_nodes e he, h.cov_n6 e he⟩

theorem Trav.HInv.Entry.mono {c : TravCfg} {net : List NetNode} {hist hist' : List KElem} {s s' : Trav}
    {e : Addr × QPhase} (E : Trav.HInv.Entry c net hist s e) (g : Trav.Grow s s') (hh : ∀ m ∈ hist, m ∈ hist') :
    Trav.HInv.Entry c net hist' s' e :=
  ⟨E.honest, fun hp => (E.resp_past hp).imp fun m hm => ⟨hh m hm.1, hm.2⟩,
    fun r hr n hn hnr => g.has (E.cov_nodes r hr n hn hnr), fun hr => g.covers (E.cov_n6 hr)⟩

/-- The shape of every preservation step: the state and the history grow, each goroutine is an old one or meets
its obligations afresh; what is said about the start log is shown for the new state. -/
theorem Trav.HInv.transfer {c : TravCfg} {net : List NetNode} {hist hist' : List KElem} {s s' : Trav}
    (h : Trav.HInv c net hist s) (g : Trav.Grow s s') (hh : ∀ m ∈ hist, m ∈ hist')
    (hnet : ∀ m ∈ hist', (m.id, m.addr) ∈ net) (hok : ∀ x ∈ s'.unq, x.ok') (hsorted : SortedU c s'.unq)
    (hent : ∀ e ∈ s'.inflight, e ∈ s.inflight ∨ Trav.HInv.Entry c net hist' s' e)
    (hstarted : ∀ a ∈ s'.started, a ∈ s'.inflight.map Prod.fst ∨ ∃ m ∈ hist', m.addr = a)
    (hcov : s'.covers c net ∨ ∀ a ∈ s'.started, a ∈ s'.inflight.map Prod.fst) : Trav.HInv c net hist' s' :=
  have E : ∀ e ∈ s'.inflight, Trav.HInv.Entry c net hist' s' e :=
    fun e he => (hent e he).elim (fun h0 => (h.entry h0).mono g hh) id
  ⟨hok, hsorted, hnet, fun e he => (E e he).honest, fun e he => (E e he).resp_past, hstarted,
    fun e he => (E e he).cov_nodes, fun e he => (E e he).cov_n6, hcov⟩

/-- Steps that only enlarge the frontier / drop an already queried candidate from it. -/
theorem Trav.HInv.grow {c : TravCfg} {net : List NetNode} {hist : List KElem} {s s' : Trav}
    (h : Trav.HInv c net hist s)
    (hinf : s'.inflight = s.inflight) (hst : s'.started = s.started) (g : Trav.Grow s s')
    (hok : ∀ x ∈ s'.unq, x.ok') (hsorted : SortedU c s'.unq) : Trav.HInv c net hist s' :=
  h.transfer g (fun _ hm => hm) h.hist_net hok hsorted (fun _ he => Or.inl (hinf ▸ he))
    (hinf ▸ hst ▸ h.resp_started) (hinf ▸ hst ▸ h.cov.imp_left g.covers)

theorem Trav.HInv.launch {c : TravCfg} {net : List NetNode} {hist : List KElem} {s s' : Trav}
    (h : Trav.HInv c net hist s) (a : Addr)
    (hinf : s'.inflight = s.inflight ++ [(a, .inDoQuery)]) (hst : s'.started = s.started ++ [a])
    (g : Trav.Grow s s')
    (hok : ∀ x ∈ s'.unq, x.ok') (hsorted : SortedU c s'.unq) : Trav.HInv c net hist s' := by
  have hfst : ∀ x, x ∈ s.inflight.map Prod.fst ∨ x = a → x ∈ s'.inflight.map Prod.fst := by
    intro x hx
    rw [hinf, List.map_append]
    exact List.mem_append.mpr (hx.imp_right List.mem_singleton.mpr)
  have hstarted : ∀ x ∈ s'.started, x ∈ s.started ∨ x = a :=
    fun x hx => (List.mem_append.mp (hst ▸ hx)).imp_right List.mem_singleton.mp
  refine h.transfer g (fun _ hm => hm) h.hist_net hok hsorted (fun e he => ?_) (fun x hx => ?_) ?_
  · rw [hinf] at he
    rcases List.mem_append.mp he with he | he
    · exact Or.inl he
    · cases List.mem_singleton.mp he
      exact Or.inr ⟨(fun _ hr => nomatch hr), (fun hp => nomatch hp), (fun _ hr => nomatch hr), (fun hr => nomatch hr)⟩
  · rcases hstarted x hx with hx | hx
    · exact (h.resp_started x hx).imp_left (fun h1 => hfst x (Or.inl h1))
    · exact Or.inl (hfst x (Or.inr hx))
  · refine h.cov.imp g.covers (fun h1 x hx => hfst x ?_)
    exact (hstarted x hx).imp_left (h1 x)

theorem Trav.HInv.rephase {c : TravCfg} {net : List NetNode} {hist hist' : List KElem} {s s' : Trav}
    (h : Trav.HInv c net hist s) (a : Addr) (p : QPhase)
    (hu : s'.unq = s.unq) (hq : s'.queried = s.queried) (hst : s'.started = s.started)
    (hinf : s'.inflight = setPhase s.inflight a p)
    (hh : ∀ m ∈ hist, m ∈ hist') (hnet : ∀ m ∈ hist', (m.id, m.addr) ∈ net)
    (E : Trav.HInv.Entry c net hist' s (a, p)) : Trav.HInv c net hist' s' := by
  have g : Trav.Grow s s' := Trav.Grow.of_eq hu hq
  have hfst : s'.inflight.map Prod.fst = s.inflight.map Prod.fst := by rw [hinf, setPhase_map_fst]
  refine h.transfer g hh hnet (hu ▸ h.unq_ok) (hu ▸ h.unq_sorted) (fun e he => ?_) ?_ ?_
  · rcases mem_setPhase (hinf ▸ he) with he | rfl
    · exact Or.inl he
    · exact Or.inr (E.mono g (fun _ hm => hm))
  · rw [hfst, hst]
    exact fun x hx => (h.resp_started x hx).imp_right fun ⟨m, hm, hma⟩ => ⟨m, hh m hm, hma⟩
  · rw [hfst, hst]
    exact h.cov.imp_left g.covers

theorem Trav.HInv.finish {c : TravCfg} {net : List NetNode} {hist : List KElem} {s s' : Trav}
    (h : Trav.HInv c net hist s) (a : Addr) (hm : (a, QPhase.nodes6Done) ∈ s.inflight)
    (hu : s'.unq = s.unq) (hq : s'.queried = s.queried) (hst : s'.started = s.started)
    (hinf : s'.inflight = s.inflight.filter (fun e => !(e.1 == a))) : Trav.HInv c net hist s' := by
  have g : Trav.Grow s s' := Trav.Grow.of_eq hu hq
  refine h.transfer g (fun _ hm => hm) h.hist_net (hu ▸ h.unq_ok) (hu ▸ h.unq_sorted)
    (fun e he => Or.inl (List.mem_filter.mp (hinf ▸ he)).1) (fun x hx => ?_)
    (Or.inl (g.covers (h.cov_n6 _ hm rfl)))
  -- the goroutine that leaves was past `addClosest`: its responder is in the history
  by_cases hxa : x = a
  · exact Or.inr (hxa ▸ h.resp_past _ hm rfl)
  · refine (h.resp_started x (hst ▸ hx)).imp_left (fun h1 => ?_)
    obtain ⟨e, he, rfl⟩ := List.mem_map.mp h1
    exact hinf ▸ List.mem_map.mpr ⟨e, List.mem_filter.mpr ⟨he, by simpa using hxa⟩, rfl⟩

theorem Trav.HInv.addNode {c : TravCfg} {net : List NetNode} {hist : List KElem} {s : Trav}
    (ht : c.target.length = 20) (h : Trav.HInv c net hist s) (n : Cand) (hn : n.ok') :
    Trav.HInv c net hist (s.addNode c n) ∧ Trav.Grow s (s.addNode c n) ∧
      (c.nodeFilter n = true → (s.addNode c n).has n) := by
  rcases Trav.addNode_cases c s n with ⟨hno, e⟩ | ⟨_, _, e⟩ <;> rw [e]
  · -- not inserted: if it passes the filter, its address is queried
    refine ⟨h, Trav.Grow.refl s, fun hf => Or.inl ?_⟩
    rcases hno with hq | hf'
    · exact hq
    · rw [hf] at hf'; cases hf'
  · have hmem := fun x => SSet.mem_add c.target ht s.unq n x h.unq_ok hn
    have g : Trav.Grow s { s with unq := SSet.add c.target s.unq n, gen := s.gen + 1 } :=
      ⟨fun _ hk => hk, fun x hx => Or.inr ((hmem x).mpr (Or.inr hx))⟩
    refine ⟨h.grow rfl rfl g ?_ (SSet.add_pw c.target s.unq n h.unq_sorted), g,
      fun _ => Or.inr ((hmem n).mpr (Or.inl rfl))⟩
    intro x hx
    rcases (hmem x).mp hx with rfl | hx
    · exact hn
    · exact h.unq_ok x hx

theorem Trav.HInv.addNodes {c : TravCfg} {net : List NetNode} {hist : List KElem}
    (ht : c.target.length = 20) (ns : List Cand) {s : Trav} (h : Trav.HInv c net hist s)
    (hns : ∀ x ∈ ns, x.ok') :
    Trav.HInv c net hist (s.addNodes c ns) ∧ Trav.Grow s (s.addNodes c ns) ∧
      (∀ x ∈ ns, c.nodeFilter x = true → (s.addNodes c ns).has x) := by
  induction ns generalizing s with
  | nil => exact ⟨h, Trav.Grow.refl s, by simp⟩
  | cons n ns ih =>
    rw [Trav.addNodes_cons]
    obtain ⟨h1, g1, hs1⟩ := h.addNode ht n (hns n List.mem_cons_self)
    obtain ⟨h2, g2, hs2⟩ := ih h1 (fun x hx => hns x (List.mem_cons_of_mem _ hx))
    refine ⟨h2, g1.trans g2, ?_⟩
    intro x hx hf
    rcases List.mem_cons.mp hx with rfl | hx
    · exact g2.has (hs1 hf)
    · exact hs2 x hx hf

theorem Trav.HInv.startQuery {c : TravCfg} {net : List NetNode} {hist : List KElem} {s : Trav}
    (h : Trav.HInv c net hist s) : Trav.HInv c net hist (s.startQuery c) := by
  rcases Trav.startQuery_cases c s with ⟨_, e⟩ | ⟨a, rest, hu, hcase⟩
  · rw [e]; exact h
  have hok : ∀ x ∈ rest, x.ok' := fun x hx => h.unq_ok x (hu ▸ List.mem_cons_of_mem _ hx)
  have hsorted : SortedU c rest := (List.pairwise_cons.mp (hu ▸ h.unq_sorted)).2
  rcases hcase with ⟨hq, e⟩ | ⟨_, e⟩ <;> rw [e]
  · refine h.grow rfl rfl ⟨fun _ hk => hk, fun x hx => ?_⟩ hok hsorted
    rcases List.mem_cons.mp (hu ▸ hx) with rfl | hx
    · exact Or.inl hq
    · exact Or.inr hx
  · refine h.launch a.addr rfl rfl ⟨fun _ hk => List.mem_append_left _ hk, fun x hx => ?_⟩ hok hsorted
    rcases List.mem_cons.mp (hu ▸ hx) with rfl | hx
    · exact Or.inl (List.mem_append_right _ (List.mem_singleton.mpr rfl))
    · exact Or.inr hx

theorem Trav.HInv.startLoop {c : TravCfg} {net : List NetNode} {hist : List KElem} (fuel : Nat)
    {s : Trav} (h : Trav.HInv c net hist s) : Trav.HInv c net hist (Trav.startLoop c fuel s) :=
  Trav.startLoop_induct fuel h (fun _ h _ _ => h.startQuery)

end Dht
