/-
The inductive invariant of the query machine, the termination measure,
the lifting of one-step facts to runs, and soundness of the driver's acceptance check.
-/
import DhtVerif.Model.Query
namespace Dht.Qry

theorem effectiveTries_pos (n : Nat) : 1 ≤ effectiveTries n := by
  unfold effectiveTries
  split
  · decide
  · omega

/-- Inductive invariant of the machine (the property theorems read most clauses; `maxPos`, `final_eq`, `closed_exited`,
`err_pushed`, `sel_none` and the three `el_*` are there to make it inductive); `inv_iff` is the same as one conjunction. -/
structure Inv (s : QState) : Prop where
  maxPos : 1 ≤ s.maxSends
  writes_le : s.writes ≤ s.sends
  sends_le : s.sends ≤ s.maxSends
  loop_lt : (s.sph = .waitingDelay ∨ s.sph = .writing) → s.sends < s.maxSends
  final_eq : s.sph = .finalDelay → s.sends = s.maxSends
  start_ns : s.wph = .start → s.sph = .notStarted
  ns_start : s.sph = .notStarted → s.wph = .start
  start_clean : s.wph = .start → s.pending = false ∧ s.replyInFlight = false ∧ s.replyChan = false ∧
    s.outcome = none ∧ s.chanErr = none ∧ s.sends = 0 ∧ s.writes = 0 ∧ s.elapsed = 0
  closed_exited : s.chanClosed = true → s.sph = .exited
  exited_closed : s.sph = .exited → s.chanClosed = true
  err_pushed : s.chanErr.isSome = true → (s.sph = .pushed ∨ s.sph = .exited)
  pushed_err : (s.sph = .pushed ∨ s.sph = .exited) → (s.wph = .start ∨ s.wph = .selecting) → s.chanErr.isSome = true
  ret_pending : s.wph = .returned → s.pending = false
  joined_sender : (s.wph = .joined ∨ s.wph = .returned) → (s.sph = .pushed ∨ s.sph = .exited)
  sel_none : (s.wph = .start ∨ s.wph = .selecting) → s.outcome = none
  out_some : ¬(s.wph = .start ∨ s.wph = .selecting) → s.outcome.isSome = true
  not_empty : s.outcome ≠ some .emptyResult
  reply_popped : (s.replyInFlight = true ∨ s.replyChan = true ∨ s.outcome = some .reply) → s.pending = false ∧ s.wph ≠ .start
  timeout_late : (s.chanErr = some .timeout ∨ s.outcome = some (.sendErr .timeout)) →
    s.sends = s.maxSends ∧ s.elapsed = s.maxSends
  el_wait : s.sph = .waitingDelay → (s.timerFired = true → s.elapsed = s.sends) ∧ (s.timerFired = false → s.elapsed + 1 = s.sends)
  el_write : s.sph = .writing → s.elapsed = s.sends
  el_final : s.sph = .finalDelay → (s.timerFired = true → s.elapsed = s.sends) ∧ (s.timerFired = false → s.elapsed + 1 = s.sends)

/-- `Inv` as one conjunction, the form in which `grind` takes all clauses in a single pass. -/
theorem inv_iff (s : QState) : Inv s ↔
    1 ≤ s.maxSends ∧ s.writes ≤ s.sends ∧ s.sends ≤ s.maxSends ∧
    ((s.sph = .waitingDelay ∨ s.sph = .writing) → s.sends < s.maxSends) ∧
    (s.sph = .finalDelay → s.sends = s.maxSends) ∧
    (s.wph = .start → s.sph = .notStarted) ∧
    (s.sph = .notStarted → s.wph = .start) ∧
    (s.wph = .start → s.pending = false ∧ s.replyInFlight = false ∧ s.replyChan = false ∧
      s.outcome = none ∧ s.chanErr = none ∧ s.sends = 0 ∧ s.writes = 0 ∧ s.elapsed = 0) ∧
    (s.chanClosed = true → s.sph = .exited) ∧
    (s.sph = .exited → s.chanClosed = true) ∧
    (s.chanErr.isSome = true → (s.sph = .pushed ∨ s.sph = .exited)) ∧
    ((s.sph = .pushed ∨ s.sph = .exited) → (s.wph = .start ∨ s.wph = .selecting) → s.chanErr.isSome = true) ∧
    (s.wph = .returned → s.pending = false) ∧
    ((s.wph = .joined ∨ s.wph = .returned) → (s.sph = .pushed ∨ s.sph = .exited)) ∧
    ((s.wph = .start ∨ s.wph = .selecting) → s.outcome = none) ∧
    (¬(s.wph = .start ∨ s.wph = .selecting) → s.outcome.isSome = true) ∧
    s.outcome ≠ some .emptyResult ∧
    ((s.replyInFlight = true ∨ s.replyChan = true ∨ s.outcome = some .reply) → s.pending = false ∧ s.wph ≠ .start) ∧
    ((s.chanErr = some .timeout ∨ s.outcome = some (.sendErr .timeout)) →
      s.sends = s.maxSends ∧ s.elapsed = s.maxSends) ∧
    (s.sph = .waitingDelay →
      (s.timerFired = true → s.elapsed = s.sends) ∧ (s.timerFired = false → s.elapsed + 1 = s.sends)) ∧
    (s.sph = .writing → s.elapsed = s.sends) ∧
    (s.sph = .finalDelay →
      (s.timerFired = true → s.elapsed = s.sends) ∧ (s.timerFired = false → s.elapsed + 1 = s.sends)) :=
  ⟨fun ⟨h1, h2, h3, h4, h5, h6, h7, h8, h9, h10, h11, h12, h13, h14, h15, h16, h17, h18, h19, h20, h21, h22⟩ =>
     ⟨h1, h2, h3, h4, h5, h6, h7, h8, h9, h10, h11, h12, h13, h14, h15, h16, h17, h18, h19, h20, h21, h22⟩,
   fun ⟨h1, h2, h3, h4, h5, h6, h7, h8, h9, h10, h11, h12, h13, h14, h15, h16, h17, h18, h19, h20, h21, h22⟩ =>
     ⟨h1, h2, h3, h4, h5, h6, h7, h8, h9, h10, h11, h12, h13, h14, h15, h16, h17, h18, h19, h20, h21, h22⟩⟩

theorem inv_init (n : Nat) (c x : Bool) : Inv (init n c x) := by
  have h := effectiveTries_pos n
  constructor <;> simp_all [init]

/-- One case per enabled branch of `step`: the successor state is then a record update of `s`, and the 22 clauses
are propositional and linear facts about its fields. -/
theorem inv_step {s s' : QState} (e : Ev) (hi : Inv s) (h : step s e = some s') : Inv s' := by
  rw [inv_iff] at hi ⊢
  cases e <;> simp only [step, pushErr] at h <;> (repeat' split at h) <;>
    first | (cases h; done) | (cases h; grind)

theorem reachable_inv {s : QState} (h : Reachable s) : Inv s := by
  induction h with
  | init n c x => exact inv_init n c x
  | step e _ hs ih => exact inv_step e ih hs

theorem measure_step {s s' : QState} (e : Ev) (hi : Inv s) (h : step s e = some s') :
    measure s' + (if e.progress then 1 else 0) ≤ measure s := by
  have h1 := hi.loop_lt
  have h2 := hi.start_ns
  clear hi -- nothing else of the invariant is needed
  cases e <;> simp only [step, pushErr] at h <;> (repeat' split at h) <;>
    first | (cases h; done) | (cases h; simp only [measure, senderWeight, waiterWeight, Ev.progress]; grind)

theorem not_stuck {s : QState} (hi : Inv s) (hn : ¬ s.terminal) :
    ∃ e s', e.progress = true ∧ step s e = some s' := by
  have key : ∀ e : Ev, e.progress = true → (step s e).isSome = true → ∃ e s', e.progress = true ∧ step s e = some s' :=
    fun e hp hsome => ⟨e, _, hp, (Option.some_get hsome).symm⟩
  -- the handleResponse goroutine can always finish
  by_cases hr : s.replyInFlight = true
  · exact key .replyDeliver rfl (by simp [step, hr])
  -- the sender can always move unless it has exited
  cases hs : s.sph with
  | notStarted => exact key .register rfl (by simp [step, hi.ns_start hs, apply_ite Option.isSome])
  | waitingDelay =>
    by_cases ht : s.timerFired = true
    · by_cases hc : s.closed = true
      · exact key .sendClosedErr rfl (by simp [step, hs, ht, hc])
      · exact key .sendBegin rfl (by simp [step, hs, ht, hc])
    · exact key .delayElapses rfl (by simp [step, hs, ht])
  | writing => exact key .sendOk rfl (by simp [step, hs, apply_ite Option.isSome])
  | finalDelay =>
    by_cases ht : s.timerFired = true
    · exact key .senderTimeout rfl (by simp [step, hs, ht])
    · exact key .delayElapses rfl (by simp [step, hs, ht])
  | pushed => exact key .senderClose rfl (by simp [step, hs])
  | exited =>
    -- then its channel is closed, and the waiter can move unless it has returned
    cases hw : s.wph with
    | start => have := hi.start_ns hw; simp [hs] at this
    | selecting =>
      have he := hi.pushed_err (Or.inr hs) (Or.inr hw)
      cases hce : s.chanErr with
      | none => simp [hce] at he
      | some e => exact key .selSendErr rfl (by simp [step, hw, hce])
    | selected => exact key .cancelSend rfl (by simp [step, hw])
    | cancelled => exact key .join rfl (by simp [step, hw, hi.exited_closed hs]; split <;> rfl)
    | joined => exact key .deregister rfl (by simp [step, hw])
    | returned =>
      exfalso; apply hn
      exact ⟨hw, hs, by simpa using hr⟩

theorem run_induction {P : QState → Prop} (hstep : ∀ s e s', P s → step s e = some s' → P s')
    {s s' : QState} (es : List Ev) (hs : P s) (h : run s es = some s') : P s' := by
  revert h
  fun_induction run s es <;> intro h
  case case1 => cases h; exact hs
  case case2 => cases h
  case case3 hs1 ih => exact ih (hstep _ _ _ hs hs1) h

theorem run_inv {s s' : QState} (es : List Ev) (hi : Inv s) (h : run s es = some s') : Inv s' :=
  run_induction (fun _ e _ hi hs => inv_step e hi hs) es hi h

theorem run_reachable {s s' : QState} (es : List Ev) (hr : Reachable s) (h : run s es = some s') : Reachable s' :=
  run_induction (fun _ e _ hr hs => Reachable.step e hr hs) es hr h

theorem run_progress_bound {s s' : QState} (es : List Ev) (hi : Inv s) (h : run s es = some s') :
    (es.filter Ev.progress).length + measure s' ≤ measure s := by
  revert h
  fun_induction run s es <;> intro h
  case case1 => cases h; exact Nat.le_of_eq (Nat.zero_add _)
  case case2 => cases h
  case case3 e es s1 hs1 ih =>
    have h1 := ih (inv_step e hi hs1) h
    have h2 := measure_step e hi hs1
    rw [List.filter_cons]
    split <;> simp_all <;> omega

theorem finish_alone {s : QState} (hi : Inv s) :
    ∃ es s', (∀ e ∈ es, e.progress = true) ∧ run s es = some s' ∧ s'.terminal := by
  generalize hm : measure s = m
  induction m using Nat.strongRecOn generalizing s with
  | _ m ih =>
    by_cases ht : s.terminal
    · exact ⟨[], s, by simp, rfl, ht⟩
    · obtain ⟨e, s1, hp, hs1⟩ := not_stuck hi ht
      have hlt := measure_step e hi hs1
      rw [hp] at hlt
      obtain ⟨es, s2, hall, hrun, hterm⟩ := ih (measure s1) (by simp at hlt; omega) (inv_step e hi hs1) rfl
      exact ⟨e :: es, s2, by simpa [hp] using hall, by simp [run, hs1, hrun], hterm⟩

/-- Three frame facts in one statement, so that `step` is taken apart once. `maxSends` never changes. What a closed
server can no longer do: the flag stays; unless a write is already in progress none is started and none completes;
and it pops no transaction, so no reply reaches the waiter. And once `Query` has returned (the sender then being
past its loop, `Inv.joined_sender`) nothing is sent or written. -/
theorem step_frame {s s' : QState} {e : Ev} (h : step s e = some s') :
    s'.maxSends = s.maxSends ∧
    (s.closed = true →
      s'.closed = true ∧
      (s.sph ≠ .writing → s'.sph ≠ .writing ∧ s'.writes = s.writes) ∧
      (s.replyInFlight = false ∧ s.replyChan = false ∧ s.outcome ≠ some .reply →
        s'.replyInFlight = false ∧ s'.replyChan = false ∧ s'.outcome ≠ some .reply)) ∧
    (s.wph = .returned → s.sph = .pushed ∨ s.sph = .exited →
      s'.writes = s.writes ∧ s'.sends = s.sends ∧ s'.wph = .returned) := by
  cases e <;> simp only [step, pushErr] at h <;> (repeat' split at h) <;>
    first | (cases h; done) | (cases h; grind)

theorem insertAll_mem {acc xs : List ObsSt} {y : ObsSt} (h : y ∈ insertAll acc xs) : y ∈ acc ∨ y ∈ xs := by
  unfold insertAll at h
  induction xs generalizing acc with
  | nil => exact .inl h
  | cons x xs ih =>
    rcases ih h with h1 | h1
    · dsimp only at h1
      split at h1
      · exact .inl h1
      · exact (List.mem_append.mp h1).imp_right fun h => by rw [List.mem_singleton.mp h]; exact List.mem_cons_self
    · exact .inr (List.mem_cons_of_mem _ h1)

theorem internalSuccs_reach {o y : ObsSt} (ho : Reachable o.q) (h : y ∈ o.internalSuccs) : Reachable y.q := by
  rcases List.mem_append.mp h with h | h
  · obtain ⟨e, _, he⟩ := List.mem_filterMap.mp h
    obtain ⟨q', hs, rfl⟩ := Option.map_eq_some_iff.mp he
    exact .step e ho hs
  · split at h
    · split at h
      · cases List.mem_singleton.mp h; exact .step _ ho ‹_›
      · cases h
    · cases h

theorem closure_reach (fuel : Nat) (xs : List ObsSt) (hx : ∀ x ∈ xs, Reachable x.q) :
    ∀ y ∈ closure fuel xs, Reachable y.q := by
  fun_induction closure fuel xs with
  | case1 => exact hx
  | case2 => exact hx
  | case3 fuel xs next _ ih =>
    refine ih fun x hxm => ?_
    rcases insertAll_mem hxm with h | h
    · exact hx x h
    · obtain ⟨o, ho, hy⟩ := List.mem_flatMap.mp h
      exact internalSuccs_reach (hx o ho) hy

theorem obsStep_reach {o y : ObsSt} (e : Obs) (ho : Reachable o.q) (h : y ∈ obsStep o e) : Reachable y.q := by
  revert h
  fun_cases obsStep o e <;> intro h
  case case1 | case2 | case3 => -- `send`, `sendfail`, `reply`: a step of the machine, if enabled
    obtain ⟨q', hs, rfl⟩ := Option.map_eq_some_iff.mp (Option.mem_toList.mp h)
    exact .step _ ho hs
  case case4 => cases List.mem_singleton.mp h; exact .step _ ho ‹_› -- `cancel`, enabled
  case case8 => cases h -- `closeret` on an open server
  all_goals cases List.mem_singleton.mp h; exact ho -- the state of the machine is left alone

theorem accepts_reach (n : Nat) (evs : List Obs) (i : Nat) (xs ys : List ObsSt)
    (hx : ∀ x ∈ xs, Reachable x.q) (h : accepts xs n evs i = .ok ys) : ∀ y ∈ ys, Reachable y.q := by
  revert h
  fun_induction accepts xs n evs i <;> intro h
  case case1 => cases h; exact closure_reach _ _ hx
  case case2 => cases h
  case case3 xs e es i cl next _ ih =>
    refine ih (fun x hxm => ?_) h
    rcases insertAll_mem hxm with h1 | h1
    · cases h1
    · obtain ⟨o, ho, hy⟩ := List.mem_flatMap.mp h1
      exact obsStep_reach e (closure_reach _ xs hx o ho) hy

theorem acceptsRun_sound (numTries : Nat) (c x : Bool) (evs : List Obs) (out : ObsOutcome)
    (h : acceptsRun numTries c x evs out = .ok ()) :
    ∃ s, Reachable s ∧ s.terminal ∧ s.outcome.map Outcome.obs = some out := by
  revert h
  fun_cases acceptsRun numTries c x evs out <;> intro h <;> cases h
  rename_i ys hacc hany
  obtain ⟨o, ho, hcond⟩ := List.any_eq_true.mp hany
  simp only [Bool.and_eq_true, decide_eq_true_eq, beq_iff_eq] at hcond
  exact ⟨o.q, accepts_reach _ evs 0 _ ys (fun y hy => by cases List.mem_singleton.mp hy; exact .init ..) hacc o ho,
    hcond.1, hcond.2⟩

end Dht.Qry
