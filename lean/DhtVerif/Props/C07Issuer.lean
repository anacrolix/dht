/-
C07 / C14 — where transaction IDs come from (T1 by translation).

`Server.nextTransactionID` and `varintIdIssuer.Issue` are regenerated from the source as statement trees on every
run (`Gen.stmNextTransactionID`, `Gen.stmIssue`). Interpreted with an atom table (source text |-> meaning on the model
state, unknown text |-> none) the issuer's body returns `uvarint next` and leaves `next + 1`, which is what
`Txns.register` of the model does; with `uvarint` injective, no two of the first 2^64 - 1 queries of a process share
a transaction ID, however many are outstanding. (A two-byte counter, a counter rolled back, or an issuer that is not
consulted changes one of the two trees.)
-/
import DhtVerif.Lemmas.SourceTrees
import DhtVerif.Model.Txn
import DhtVerif.Lemmas.C07
import DhtVerif.Gen.Facts
namespace Dht
open Gen (SExp)

/-- What `Issue` reads and writes: the counter, the scratch buffer, its lock, and the locals `$1`, `$2`. -/
structure IssuerSt where
  next   : Nat
  buf    : List UInt8 := []
  n      : Nat := 0
  id     : List UInt8 := []
  locked : Bool := false

def isStep : String → IssuerSt → Option IssuerSt
  | "me.mu.Lock()" => fun s => if s.locked then none else some { s with locked := true }
  | "$1 := binary.PutUvarint(me.buf[:], me.next)" => fun s =>
    if s.locked && decide ((uvarint s.next).length ≤ maxVarintLen64) then
      some { s with buf := uvarint s.next, n := (uvarint s.next).length }
    else none
  | "me.next++" => fun s => if s.locked then some { s with next := (s.next + 1) % 2 ^ 64 } else none
  | "$2 := string(me.buf[:$1])" => fun s => some { s with id := s.buf.take s.n }
  | "me.mu.Unlock()" => fun s => if s.locked then some { s with locked := false } else none
  | _ => fun _ => none

def isCond : String → IssuerSt → Option Bool := fun _ _ => none

/-- The result: the ID handed out and the counter left behind (only once the lock has been released). -/
def isRet : String → IssuerSt → Option (List UInt8 × Nat)
  | "$2" => fun s => if s.locked then none else some (s.id, s.next)
  | _ => fun _ => none

/-- `varintIdIssuer.Issue`, as regenerated from the source, hands out `uvarint next` and leaves `next + 1`. -/
theorem C07.issuer_is_the_source (next : Nat) (h : next + 1 < 2 ^ 64) :
    SExp.evalWith isStep isCond isRet Gen.stmIssue { next := next } = some (uvarint next, next + 1) := by
  have hfit : (uvarint next).length ≤ maxVarintLen64 := uvarint_fits next (by omega)
  have hmod : (next + 1) % 2 ^ 64 = next + 1 := Nat.mod_eq_of_lt h
  unfold isStep isRet
  simp [Gen.stmIssue, SExp.evalWith_seq, SExp.evalWith_ret, hfit, hmod]

/-- `Server.nextTransactionID` is nothing but a call of the process-wide issuer. -/
theorem C07.nextTransactionID_is_the_issuer :
    Gen.stmNextTransactionID = SExp.ret "transactions.DefaultIdIssuer.Issue()" :=
  rfl

/-- The model's `register` issues exactly what the source's issuer issues. -/
theorem C07.register_uses_the_issuer (s : Txns) (q : Nat) (dst : List UInt8) (r : Txns × TxnKey)
    (h : s.next + 1 < 2 ^ 64) (hr : s.register q dst = some r) :
    SExp.evalWith isStep isCond isRet Gen.stmIssue { next := s.next } = some (r.2.t, r.1.next) := by
  rw [C07.issuer_is_the_source s.next h]
  rw [(Txns.register_eq_some_iff.mp hr).2]

/-- No two of the first 2^64 - 1 IDs handed out are equal. -/
theorem C07.issued_ids_never_repeat (i j : Nat) (hij : i ≠ j) (hi : i + 1 < 2 ^ 64) (hj : j + 1 < 2 ^ 64)
    (a b : List UInt8 × Nat)
    (ha : SExp.evalWith isStep isCond isRet Gen.stmIssue { next := i } = some a)
    (hb : SExp.evalWith isStep isCond isRet Gen.stmIssue { next := j } = some b) : a.1 ≠ b.1 := by
  rw [C07.issuer_is_the_source i hi] at ha
  rw [C07.issuer_is_the_source j hj] at hb
  cases ha; cases hb
  intro heq
  exact hij (uvarint_inj i j heq)

/-! Negative controls: hand-mutated trees no longer evaluate to the model's issue. -/

/-- a two-byte counter instead of the varint -/
def stmIssueMutFixed : SExp := SExp.seq "me.mu.Lock()" (SExp.seq "binary.BigEndian.PutUint16(me.buf[:], uint16(me.next))" (SExp.seq "me.next++" (SExp.seq "$2 := string(me.buf[:2])" (SExp.seq "me.mu.Unlock()" (SExp.ret "$2")))))

/-- the increment dropped -/
def stmIssueMutNoInc : SExp := SExp.seq "me.mu.Lock()" (SExp.seq "$1 := binary.PutUvarint(me.buf[:], me.next)" (SExp.seq "$2 := string(me.buf[:$1])" (SExp.seq "me.mu.Unlock()" (SExp.ret "$2"))))

theorem C07.issuer_mutFixed_none (next : Nat) :
    SExp.evalWith isStep isCond isRet stmIssueMutFixed { next := next } = none := by
  unfold isStep
  simp [stmIssueMutFixed, SExp.evalWith_seq]

theorem C07.issuer_mutNoInc_differs :
    SExp.evalWith isStep isCond isRet stmIssueMutNoInc { next := 5 } ≠ some (uvarint 5, 6) := by
  have hfit : (uvarint 5).length ≤ maxVarintLen64 := uvarint_fits 5 (by decide)
  unfold isStep isRet
  simp [stmIssueMutNoInc, SExp.evalWith_seq, SExp.evalWith_ret, hfit]

/-- Non-vacuity: counter 300 gives the two-byte varint ac 02 and leaves 301. -/
example : SExp.evalWith isStep isCond isRet Gen.stmIssue { next := 300 } = some ([0xac, 0x02], 301) := by
  rw [C07.issuer_is_the_source 300 (by decide)]
  simp [uvarint]

end Dht
