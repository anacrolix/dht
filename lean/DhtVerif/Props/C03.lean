/-
C03 — lookups terminate, and only when nothing closer is left to ask.
-/
import DhtVerif.Model.Traversal
import DhtVerif.Lemmas.Trav
import DhtVerif.Lemmas.TravCore
import DhtVerif.Lemmas.C03Wake
import DhtVerif.Lemmas.C03Rep
import DhtVerif.Props.STHaveQuery
namespace Dht

def idxAt (l : List String) (x : String) : Nat := l.findIdx (· == x)

/-- T1: the run loop takes the wake-up channel and only then unlocks and sleeps
(`cond.Signaled()` immediately followed by `mu.Unlock()` and the `select`); so
does the stop waiter; every query completion decrements and broadcasts under
the lock; `addNodeLocked` broadcasts after inserting. -/
theorem C03.source_order :
    Gen.evRun.getD (idxAt Gen.evRun "op.cond.Signaled" + 1) "" = "op.mu.Unlock" ∧
    Gen.evRun.getD (idxAt Gen.evRun "op.cond.Signaled" + 2) "" = "select{" ∧
    idxAt Gen.evRun "op.startQuery" < idxAt Gen.evRun "op.cond.Signaled" ∧
    idxAt Gen.evRun "op.stalled.Signal" < Gen.evRun.length ∧
    Gen.evStop.getD (idxAt Gen.evStop "op.cond.Signaled" + 1) "" = "op.mu.Unlock" ∧
    Gen.evStop.getD (idxAt Gen.evStop "op.cond.Signaled" + 2) "" = "recv:cond" ∧
    idxAt Gen.evStop "if:op.outstanding == 0" < idxAt Gen.evStop "op.cond.Signaled" ∧
    Gen.evStartQuery.getD (idxAt Gen.evStartQuery "op.outstanding--" + 1) "" = "op.cond.Broadcast" ∧
    idxAt Gen.evStartQuery "op.mu.Lock" < idxAt Gen.evStartQuery "op.outstanding--" ∧
    idxAt Gen.evAddNodeLocked "op.unqueried.Add" < idxAt Gen.evAddNodeLocked "op.cond.Broadcast" ∧
    idxAt Gen.evAddNodeLocked "op.cond.Broadcast" < Gen.evAddNodeLocked.length := by
  decide +kernel

/-- A query is "mid-completion" between its `addClosest` and its deferred finish:
the only window in which the closest set may have changed without a broadcast. -/
def midCompletion (s : Trav) : Bool :=
  s.inflight.any (fun e => match e.2 with
    | .closestDone _ => true | .nodesDone _ => true | .nodes6Done => true | _ => false)

/-- What the run loop would compute if it evaluated now. -/
def currentOffer (c : TravCfg) (s : Trav) : Bool := (!s.haveQuery c || c.alpha == 0) && s.outstanding == 0

/-- No lost wake-up: whenever the run loop sleeps on a generation that is still
current, and no query is mid-completion, its view is current: the stalled offer
it holds is the one it would compute now, and it has not left a startable query
unstarted. -/
theorem C03.no_lost_wakeup (c : TravCfg) (hsig : c.sigBeforeUnlock = true) (evs : List TravEv) (s : Trav)
    (h : Trav.exec c {} evs = some s) (g : Nat) (offer : Bool)
    (hrun : s.run = .sleeping g offer) (hgen : s.gen = g) (hstop : s.stopping = false)
    (hmid : midCompletion s = false) :
    offer = currentOffer c s ∧ (s.outstanding < c.alpha → s.haveQuery c = false) :=
  (Trav.Wake.exec hsig h).cur g offer hrun hgen hstop hmid

/-- Hence no hang: when nothing is in flight and the run loop cannot be woken,
the stalled signal is on offer. -/
theorem C03.quiescent_offers_stalled (c : TravCfg) (hsig : c.sigBeforeUnlock = true) (halpha : c.alpha > 0)
    (evs : List TravEv) (s : Trav)
    (h : Trav.exec c {} evs = some s) (g : Nat) (offer : Bool)
    (hrun : s.run = .sleeping g offer) (hgen : s.gen = g) (hstop : s.stopping = false)
    (hidle : s.inflight = []) : offer = true := by
  have hmid : midCompletion s = false := by unfold midCompletion; rw [hidle]; rfl
  obtain ⟨ho, hq⟩ := C03.no_lost_wakeup c hsig evs s h g offer hrun hgen hstop hmid
  have hout : s.outstanding = 0 := by rw [(Trav.Core.exec h).outEq, hidle]; rfl
  exact ho.trans ((Trav.curOffer_iff halpha s).mpr ⟨hq (by omega), hout⟩)

set_option linter.unusedVariables false in
/-- The run loop is never stuck awake: in every reachable state in which it is
not sleeping or exited, `runEval` is enabled. And a sleeping loop whose generation
is stale can be woken. -/
theorem C03.run_loop_progress (c : TravCfg) (evs : List TravEv) (s : Trav)
    (h : Trav.exec c {} evs = some s) :
    (s.run = .awake → (s.step c .runEval).isSome = true) ∧
    (∀ g o, s.run = .sleeping g o → s.gen > g → (s.step c (.runWake .broadcast)).isSome = true) := by
  constructor
  · intro hr
    simp [Trav.step, hr]
  · intro g o hr hg
    simp [Trav.step, Trav.runWake, hr, hg]

namespace C03.Witness
def tgt : Id := List.replicate 20 0
def a1 : Addr := ⟨1, [1,2,3,4], 1⟩
def a2 : Addr := ⟨1, [1,2,3,5], 2⟩
def n1 : Cand := ⟨some (List.replicate 20 1), a1⟩
def n2 : Cand := ⟨some (List.replicate 20 2), a2⟩
/-- The hypothetical code that takes the wake-up channel after the unlock. -/
def cfgBad : TravCfg := { target := tgt, alpha := 1, sigBeforeUnlock := false }
/-- n1 is queried; the loop evaluates (one query in flight: no stalled offer) and unlocks; the
query completes, reporting n2, and broadcasts; only then does the loop take the channel. -/
def evsBad : List TravEv :=
  [.addNodes [n1], .runEval,
   .queryReturn a1 { responder := some (List.replicate 20 1), nodes := [n2] },
   .addClosest a1, .addReplyNodes a1, .addReplyNodes6 a1, .finish a1, .captureGen]
def sBad : Trav :=
  { unq := [n2], queried := [a1], closest := [⟨List.replicate 20 1, a1, none⟩], outstanding := 0,
    inflight := [], gen := 3, run := .sleeping 3 false, stopping := false, stopper := .none,
    stalledSeen := 0, started := [a1] }
end C03.Witness

/-- Counterexample kept proved: if the channel were taken after the unlock, a
wake-up can be lost — a reachable state with nothing in flight, the run loop asleep
on the current generation, a startable candidate in the frontier and no stalled offer. -/
theorem C03.lost_wakeup_if_signaled_after_unlock :
    ∃ (c : TravCfg) (evs : List TravEv) (s : Trav) (g : Nat),
      c.sigBeforeUnlock = false ∧ c.alpha > 0 ∧ Trav.exec c {} evs = some s ∧
      s.run = .sleeping g false ∧ s.gen = g ∧ s.inflight = [] ∧ s.stopping = false ∧ s.haveQuery c = true := by
  refine ⟨C03.Witness.cfgBad, C03.Witness.evsBad, C03.Witness.sBad, 3, rfl, by decide, ?_, rfl, rfl, rfl, rfl, ?_⟩
  · rfl
  · decide +kernel

/-- The addresses (as the `queried` map keys them) reported to the lookup: seeds, late `AddNodes`, reply node lists. -/
def reported : List TravEv → List Addr
  | [] => []
  | .addNodes ns :: es => ns.map (·.addr.strKey) ++ reported es
  | .queryReturn _ r :: es => (r.nodes ++ r.nodes6).map (·.addr.strKey) ++ reported es
  | _ :: es => reported es

theorem reported_eq (evs : List TravEv) : reported evs = evs.flatMap repOf := by
  induction evs with
  | nil => rfl
  | cons e es ih => cases e <;> simp [reported, repOf, ih]

/-- Termination: every query consumes a distinct address out of those ever
reported (seeds, late AddNodes, reply node lists), so the number of queries in
any execution is bounded by the number of distinct reported addresses. -/
theorem C03.queries_bounded (c : TravCfg) (evs : List TravEv) (s : Trav)
    (h : Trav.exec c {} evs = some s) :
    (s.started.map Addr.strKey).Nodup ∧ (∀ a ∈ s.started, a.strKey ∈ reported evs) ∧
    s.started.length ≤ (reported evs).eraseDups.length := by
  have hc := Trav.Core.exec h
  have hr := Trav.Rep.exec h
  rw [← reported_eq] at hr
  have hnd : (s.started.map Addr.strKey).Nodup := by rw [hc.queriedEq]; exact hc.nodup
  have hsub : ∀ k ∈ s.started.map Addr.strKey, k ∈ reported evs := by
    rw [hc.queriedEq]; exact hr.queried
  refine ⟨hnd, fun a ha => hsub _ (List.mem_map_of_mem ha), ?_⟩
  simpa using hnd.length_le_of_subset (fun x hx => List.mem_eraseDups.mpr (hsub x hx))

set_option linter.unusedVariables false in
/-- At the moment stalled is on offer (view current), no query is in flight and
every candidate left in the frontier is, with the result set full, either of
unknown ID or strictly farther from the target than the farthest member; with
the result set not full the frontier is empty. -/
theorem C03.stalled_means_exhausted (c : TravCfg) (hsig : c.sigBeforeUnlock = true) (halpha : c.alpha > 0)
    (ht : c.target.length = 20)
    (evs : List TravEv) (s : Trav) (h : Trav.exec c {} evs = some s)
    (hids : ∀ n ∈ s.unq, n.ok) (g : Nat)
    (hrun : s.run = .sleeping g true) (hgen : s.gen = g) (hstop : s.stopping = false)
    (hmid : midCompletion s = false) :
    s.outstanding = 0 ∧
    (KNN.full c.k s.closest = false → s.unq = []) ∧
    (KNN.full c.k s.closest = true → ∀ far, KNN.farthest s.closest = some far → ∀ n ∈ s.unq,
      n.id = none ∨ ∃ i, n.id = some i ∧ Id.cmp (Id.distance i c.target) (Id.distance far.id c.target) = .gt) := by
  obtain ⟨hhq, hout⟩ := (Trav.Wake.exec hsig h).stalled halpha hrun hgen hstop hmid
  exact ⟨hout, Trav.exhausted_of_not_haveQuery (Trav.Core.exec h).sorted hhq⟩

/-- Stopping completes once the in-flight queries have returned: the waiter's
view of `outstanding` is current whenever it sleeps on the current generation,
and with nothing outstanding its next step signals stopped. -/
theorem C03.stop_completes (c : TravCfg) (evs : List TravEv) (s : Trav)
    (h : Trav.exec c {} evs = some s) :
    (∀ g, s.stopper = .sleeping g → s.gen = g → s.outstanding ≠ 0) ∧
    (s.stopper = .awake → s.outstanding = 0 → ∃ s', s.step c .stopperStep = some s' ∧ s'.isStopped = true) ∧
    (s.stopper ≠ .none ↔ s.stopping = true) := by
  have hc := Trav.Core.exec h
  refine ⟨hc.stopOut, ?_, hc.stopIff⟩
  intro hst hout
  refine ⟨{ s with stopper := .done }, ?_, rfl⟩
  simp [Trav.step, hst, hout]

/-- `outstanding` counts exactly the query goroutines in flight, their addresses are
pairwise different, and the frontier is always ordered by `closerThan` (for any
candidate IDs, well-formed or not). -/
theorem C03.structure (c : TravCfg) (evs : List TravEv) (s : Trav) (h : Trav.exec c {} evs = some s) :
    s.outstanding = s.inflight.length ∧ (s.inflight.map (·.1)).Nodup ∧
    s.started.map Addr.strKey = s.queried ∧
    s.unq.Pairwise (fun a b => closerThan c.target a b = true) ∧
    (∀ g o, s.run = .sleeping g o → g ≤ s.gen) := by
  have hc := Trav.Core.exec h
  exact ⟨hc.outEq, hc.inflight_nodup, hc.queriedEq, hc.sorted, hc.runGen⟩

/-- With the source's order (channel taken before the unlock) the intermediate
`evaluated` phase does not occur. -/
theorem C03.never_evaluated (c : TravCfg) (hsig : c.sigBeforeUnlock = true) (evs : List TravEv) (s : Trav)
    (h : Trav.exec c {} evs = some s) (o : Bool) : s.run ≠ .evaluated o :=
  (Trav.Wake.exec hsig h).noEval o

/-! ## Non-vacuity -/

namespace C03.Witness
/-- The source's order, `alpha = 1`. -/
def cfgOk : TravCfg := { target := tgt, alpha := 1 }
def q1 : List TravEv :=
  [.queryReturn a1 { responder := some (List.replicate 20 1), nodes := [n2] },
   .addClosest a1, .addReplyNodes a1, .addReplyNodes6 a1, .finish a1]
def q2 : List TravEv :=
  [.queryReturn a2 { responder := some (List.replicate 20 2), nodes := [n1] },
   .addClosest a2, .addReplyNodes a2, .addReplyNodes6 a2, .finish a2]

/-- A complete lookup: n1 is queried and reports n2, n2 is queried and reports n1 again
(not queried twice); then the loop sleeps on the current generation offering stalled. -/
def evsOk : List TravEv :=
  [.addNodes [n1], .runEval] ++ q1 ++ [.runWake .broadcast, .runEval] ++ q2 ++ [.runWake .broadcast, .runEval]
def sOk : Trav := (Trav.exec cfgOk {} evsOk).getD {}

-- That a concrete history runs is decided by evaluation, and `getD` then names its final state (checking
-- `exec .. = some s` by `rfl` makes the elaborator run the machine, which is several times dearer).

example : Trav.exec cfgOk {} evsOk = some sOk := (Option.getD_of_ne_none (by decide +kernel) _).symm
example : sOk.run = .sleeping 4 true ∧ sOk.gen = 4 ∧ sOk.stopping = false ∧ sOk.inflight = [] ∧
    midCompletion sOk = false ∧ sOk.started = [a1, a2] ∧ sOk.closest.length = 2 := by decide +kernel
example : (reported evsOk).eraseDups.length = 2 := by decide +kernel

/-- The hypotheses of `no_lost_wakeup` with a query in flight: asleep on the current
generation, no stalled offer. -/
def sMid : Trav := (Trav.exec cfgOk {} [.addNodes [n1, n2], .runEval]).getD {}
example : Trav.exec cfgOk {} [.addNodes [n1, n2], .runEval] = some sMid := (Option.getD_of_ne_none (by decide +kernel) _).symm
example : sMid.run = .sleeping 2 false ∧ sMid.gen = 2 ∧ sMid.stopping = false ∧ midCompletion sMid = false ∧
    sMid.outstanding = 1 ∧ sMid.unq = [n2] ∧ sMid.haveQuery cfgOk = true := by decide +kernel

/-- `stalled_means_exhausted` with a full result set (`k = 1`) and a frontier that is not
empty: n2 stays unqueried because it is farther than the farthest (only) member n1. -/
def cfgK1 : TravCfg := { target := tgt, alpha := 1, k := 1 }
def evsK1 : List TravEv := [.addNodes [n1], .runEval] ++ q1 ++ [.runWake .broadcast, .runEval]
def sK1 : Trav := (Trav.exec cfgK1 {} evsK1).getD {}
example : Trav.exec cfgK1 {} evsK1 = some sK1 := (Option.getD_of_ne_none (by decide +kernel) _).symm
example : sK1.run = .sleeping 3 true ∧ sK1.gen = 3 ∧ sK1.stopping = false ∧ midCompletion sK1 = false ∧
    sK1.unq = [n2] ∧ KNN.full cfgK1.k sK1.closest = true ∧ (∀ n ∈ sK1.unq, n.ok) := by
  refine ⟨by decide +kernel, by decide +kernel, by decide +kernel, by decide +kernel, by decide +kernel,
    by decide +kernel, ?_⟩
  intro n hn i hi
  have : n = n2 := by simpa using (show n ∈ [n2] from hn)
  subst this
  cases hi
  rfl

/-- `stop_completes`: the waiter asleep on the current generation with a query outstanding,
and the run to `Stopped()`. -/
def evsStop : List TravEv := [.addNodes [n1], .runEval, .stop, .stopperStep]
def sStop : Trav := (Trav.exec cfgOk {} evsStop).getD {}
example : Trav.exec cfgOk {} evsStop = some sStop := (Option.getD_of_ne_none (by decide +kernel) _).symm
example : sStop.stopper = .sleeping 1 ∧ sStop.gen = 1 ∧ sStop.outstanding = 1 := by decide +kernel
example : (Trav.exec cfgOk {} (evsStop ++ q1 ++ [.stopperStep, .stopperStep])).map Trav.isStopped = some true := by
  decide +kernel

/-- The lost wake-up state of `cfgBad` is not reachable by the same history under `cfgOk`
(`captureGen` is not enabled). -/
example : Trav.exec cfgOk {} evsBad = none := rfl
end C03.Witness

/-- Kept counterexample (known finding, DESIGN.md 12.5): the stalled offer a sleeping run loop
holds can be *stale*. The offer is computed under the lock, but it is handed over in the same
`select` as the wake-up channel; if contacts are added to an idle lookup, the offer stays
receivable until the run loop goroutine is scheduled again. Reachable state: the loop sleeps
offering stalled, the generation has moved on, a startable candidate is in the frontier, and
`stalledReceived` is enabled. This is why `stalled_means_exhausted` needs the view to be current
(`s.gen = g`). -/
theorem C03.stale_offer_possible :
    ∃ (c : TravCfg) (evs : List TravEv), c.sigBeforeUnlock = true ∧ c.alpha > 0 ∧
      (match Trav.exec c {} evs with
       | some s =>
         (match s.run with
          | .sleeping g true =>
            decide (s.gen > g) && s.haveQuery c && (s.step c (.runWake .stalledReceived)).isSome
          | _ => false)
       | none => false) = true :=
  ⟨{ target := List.replicate 20 0 },
   [.runEval, .addNodes [⟨some (List.replicate 20 1), ⟨1, [10, 0, 0, 1], 1000⟩⟩]],
   by decide +kernel⟩

/-- T1 by translation: `Operation.haveQuery` in traversal/operation.go is the model's `Trav.haveQuery`. -/
theorem C03.haveQuery_is_the_source (c : TravCfg) (s : Trav) :
    Gen.treeHaveQueryLets = hqLetsExpected ∧
    DExp.evalWith (hqCond c s) (hqRet c s) Gen.treeHaveQuery = some (s.haveQuery c) :=
  SourceTrees.haveQuery c s

end Dht
