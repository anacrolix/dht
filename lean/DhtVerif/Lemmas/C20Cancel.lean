/- Helper lemmas for C20 with cancellations: invariants of `CHist` histories in the finite,
positive-rate regime. -/
import DhtVerif.Model.RateCancel
import DhtVerif.Lemmas.C20
namespace Dht

structure CHist.WF (p q burst t0 : Nat) (s : CHist) : Prop where
  ninf : s.c.b.inf = false
  hp : s.c.b.p = p
  hq : s.c.b.q = q
  hburst : s.c.b.burst = burst
  t0_le : t0 ≤ s.c.b.last
  last_le : s.c.b.last ≤ s.now

theorem CBucket.finite_of (c : CBucket) (hinf : c.b.inf = false) (hp : 0 < c.b.p) : c.finite = true := by
  have : c.b.p ≠ 0 := by omega
  simp [CBucket.finite, hinf, this]

theorem CBucket.cancelAt_noop (c : CBucket) (r : Resv) (t : Nat) (h : r.slot < t ∨ c.restore r ≤ 0) :
    c.cancelAt r t = c := by
  fun_cases CBucket.cancelAt c r t
  case case4 => omega -- the branch that credits is excluded by `h`
  all_goals rfl

theorem CBucket.cancelAt_credit (c : CBucket) (r : Resv) (t : Nat) (hfin : c.finite = true)
    (h1 : ¬ r.slot < t) (h2 : 0 < c.restore r) :
    c.cancelAt r t =
      { b := { c.b with tokens := min (c.b.cap : Int) (c.b.tokensAt t + c.restore r), last := t },
        lastEvent := if r.act = c.lastEvent ∧ c.b.p * t + c.b.unit ≤ r.act then r.act - c.b.unit else c.lastEvent } := by
  unfold CBucket.cancelAt
  rw [hfin, if_neg (by simp), if_neg h1, if_neg (by omega)]

theorem CHist.credited_eq (s : CHist) (r : Resv) :
    s.credited r = if s.c.finite = true ∧ ¬ r.slot < s.now ∧ 0 < s.c.restore r then s.c.restore r else 0 := by
  simp only [CHist.credited, Bool.and_eq_true, decide_eq_true_eq, Nat.not_lt, and_assoc]

theorem CHist.run_cons (s : CHist) (e : CEv) (h : List CEv) : s.run (e :: h) = (s.step e).run h := rfl

theorem CHist.run_append (s : CHist) (h₁ h₂ : List CEv) : s.run (h₁ ++ h₂) = (s.run h₁).run h₂ := by
  simp [CHist.run, List.foldl_append]

/-- `Step s e s' δ`: in the finite positive regime the event `e` takes `s` to `s'` and wastes `δ`
units. -/
inductive CHist.Step (s : CHist) : CEv → CHist → Int → Prop where
  | adv (dt : Nat) : Step s (.adv dt) { s with now := s.now + dt } 0
  | same (e : CEv) : Step s e s 0
  | takeOut (h : 1 ≤ s.c.b.burst) (hd : 0 ≤ s.c.b.tokensAt s.now - (s.c.b.unit : Int)) :
      Step s .allow { s with
        c := ⟨{ s.c.b with tokens := s.c.b.tokensAt s.now - (s.c.b.unit : Int), last := s.now }, s.c.b.p * s.now⟩,
        out := ⟨s.now, s.c.b.actScaled s.now⟩ :: s.out } 0
  | takePend (h : 1 ≤ s.c.b.burst) :
      Step s .reserve { s with
        c := ⟨{ s.c.b with tokens := s.c.b.tokensAt s.now - (s.c.b.unit : Int), last := s.now }, s.c.b.actScaled s.now⟩,
        pending := s.pending ++ [⟨s.now + ceilDiv (s.c.b.deficit s.now) s.c.b.p, s.c.b.actScaled s.now⟩] } 0
  | use (i : Nat) (r : Resv) (hr : s.pending[i]? = some r) (hle : r.slot ≤ s.now) :
      Step s (.use i) { s with pending := s.pending.eraseIdx i, out := ⟨s.now, r.act⟩ :: s.out } 0
  | give (h : 0 ≤ s.c.b.tokensAt s.now + (s.c.b.unit : Int)) :
      Step s .giveBack { s with
        c := ⟨{ s.c.b with tokens := s.c.b.tokensAt s.now + (s.c.b.unit : Int), last := s.now }, s.c.b.p * s.now⟩,
        returned := s.returned + 1 } 0
  /-- a cancellation that does not reach the bucket -/
  | drop (i : Nat) (r : Resv) (hr : s.pending[i]? = some r) :
      Step s (.cancel i) { s with pending := s.pending.eraseIdx i, cancelled := s.cancelled + 1 } (s.c.b.unit : Int)
  /-- a cancellation that credits `restore r > 0` units -/
  | credit (i : Nat) (r : Resv) (hr : s.pending[i]? = some r) (hs : ¬ r.slot < s.now) (h0 : 0 < s.c.restore r) :
      Step s (.cancel i) { s with
        c := ⟨{ s.c.b with tokens := min (s.c.b.cap : Int) (s.c.b.tokensAt s.now + s.c.restore r), last := s.now },
          if r.act = s.c.lastEvent ∧ s.c.b.p * s.now + s.c.b.unit ≤ r.act then r.act - s.c.b.unit else s.c.lastEvent⟩,
        pending := s.pending.eraseIdx i, cancelled := s.cancelled + 1 } ((s.c.b.unit : Int) - s.c.restore r)

theorem CHist.step_reserve_ok (s : CHist) (hinf : s.c.b.inf = false) (hp : 0 < s.c.b.p) (h : 1 ≤ s.c.b.burst) :
    s.step .reserve = { s with
      c := ⟨{ s.c.b with tokens := s.c.b.tokensAt s.now - (s.c.b.unit : Int), last := s.now }, s.c.b.actScaled s.now⟩,
      pending := s.pending ++ [⟨s.now + ceilDiv (s.c.b.deficit s.now) s.c.b.p, s.c.b.actScaled s.now⟩] } := by
  simp only [CHist.step, CBucket.reserve, Bucket.reserve_ok hinf hp h, CBucket.finite_of s.c hinf hp, if_true]

theorem CHist.step_shape (s : CHist) (e : CEv) (hinf : s.c.b.inf = false) (hp : 0 < s.c.b.p)
    (hl : s.c.b.last ≤ s.now) (ht : e.timely = true) :
    CHist.Step s e (s.step e) (s.wasteStep e) := by
  have hfin := CBucket.finite_of s.c hinf hp
  cases e with
  | adv dt => exact .adv dt
  | allow =>
    by_cases h : 1 ≤ s.c.b.burst ∧ 0 ≤ s.c.b.tokensAt s.now - (s.c.b.unit : Int)
    · simp only [CHist.step, CBucket.allow, Bucket.allow_ok hinf hp h, hfin, Bool.and_self, if_true]
      exact .takeOut h.1 h.2
    · simp only [CHist.step, CBucket.allow, Bucket.allow_no hinf hp hl h, Bool.false_and]
      exact .same _
  | reserve =>
    by_cases h : 1 ≤ s.c.b.burst
    · rw [s.step_reserve_ok hinf hp h]
      exact .takePend h
    · simp only [CHist.step, CBucket.reserve, Bucket.reserve_no none hinf hp hl h]
      exact .same _
  | use i =>
    simp only [CHist.step]
    split
    · rename_i r hr
      split
      · rename_i hle; exact .use i r hr hle
      · exact .same _
    · exact .same _
  | cancel i =>
    simp only [CHist.step, CHist.wasteStep]
    split
    · rename_i r hr
      rw [CHist.credited_eq]
      by_cases h : r.slot < s.now ∨ s.c.restore r ≤ 0
      · rw [if_neg (by omega), CBucket.cancelAt_noop _ _ _ h, Int.sub_zero]
        exact .drop i r hr
      · rw [if_pos ⟨hfin, by omega, by omega⟩, CBucket.cancelAt_credit _ _ _ hfin (by omega) (by omega)]
        exact .credit i r hr (by omega) (by omega)
    · exact .same _
  | cancelStale i t => simp [CEv.timely] at ht
  | giveBack =>
    by_cases h : 0 ≤ s.c.b.tokensAt s.now + (s.c.b.unit : Int)
    · simp only [CHist.step, CBucket.giveBack, Bucket.giveBack_ok hinf hp h, hfin, Bool.and_self, if_true]
      exact .give h
    · simp only [CHist.step, CBucket.giveBack, Bucket.giveBack_no hinf hp hl h, Bool.false_and]
      exact .same _

theorem CHist.WF.shape {p q burst t0 : Nat} {s s' : CHist} {e : CEv} {δ : Int} (w : s.WF p q burst t0)
    (h : CHist.Step s e s' δ) : s'.WF p q burst t0 := by
  cases h with
  | adv dt => exact { w with last_le := Nat.le_trans w.last_le (Nat.le_add_right _ _) }
  | same | drop | use => exact { w with }
  | takeOut | takePend | give | credit =>
    exact { w with t0_le := Nat.le_trans w.t0_le w.last_le, last_le := Nat.le_refl _ }

theorem CHist.WF.init (p q burst t0 : Nat) : (CHist.init p q burst t0).WF p q burst t0 :=
  ⟨rfl, rfl, rfl, rfl, Nat.le_refl _, Nat.le_refl _⟩

theorem CHist.live_erase (s : CHist) (i : Nat) (r : Resv) (hr : s.pending[i]? = some r) :
    s.live.Perm (r.act :: (s.out.map (·.act) ++ (s.pending.eraseIdx i).map (·.act))) := by
  have h1 : (s.pending.map (·.act)).Perm (r.act :: (s.pending.eraseIdx i).map (·.act)) :=
    (eraseIdx_perm s.pending i r hr).map _
  exact (List.Perm.append_left (s.out.map (·.act)) h1).trans List.perm_middle

/-! ## The invariant

`W` (units) is what cancellations have wasted so far: a cancellation hands back `ρ` units and adds `unit − ρ`
to the waste. That is negative when it hands back more than the token it held (`CHist.wasteStep`), which is why a
step keeps the invariant only under `0 ≤ W + δ`. -/

structure CHist.Inv (t0 : Nat) (s : CHist) (W : Int) : Prop where
  wpos : 0 ≤ W
  /-- `unit·live + tokens + W ≤ cap + p·(last − t0) + unit·returned` -/
  budget : ((s.c.b.unit * s.live.length : Nat) : Int) + s.c.b.tokens + W + ((s.c.b.p * t0 : Nat) : Int)
    ≤ (s.c.b.cap : Int) + ((s.c.b.p * s.c.b.last : Nat) : Int) + ((s.c.b.unit * s.returned : Nat) : Int)
  /-- whatever debt remains at a future scaled instant `X` is covered by live grants due after `X`,
  up to the waste -/
  covered : ∀ X : Nat, s.c.b.p * s.now ≤ X →
    0 ≤ s.c.b.tokens + (X : Int) - ((s.c.b.p * s.c.b.last : Nat) : Int) +
      ((s.c.b.unit * s.live.countP (fun g => decide (X < g)) : Nat) : Int) + W
  pend_ok : ∀ r ∈ s.pending, r.act ≤ s.c.b.p * r.slot
  out_ok : ∀ d ∈ s.out, d.act ≤ s.c.b.p * d.time ∧ d.time ≤ s.now

theorem CHist.Inv.ledger {t0 : Nat} {s : CHist} {W : Int} (i : s.Inv t0 W) :
    Ledger s.c.b.unit s.c.b.cap s.c.b.p t0 s.c.b.tokens s.c.b.last s.now s.live s.returned W :=
  ⟨i.wpos, i.budget, i.covered⟩

theorem CHist.Inv.of_ledger {t0 : Nat} {s : CHist} {W : Int}
    (l : Ledger s.c.b.unit s.c.b.cap s.c.b.p t0 s.c.b.tokens s.c.b.last s.now s.live s.returned W)
    (ip : ∀ r ∈ s.pending, r.act ≤ s.c.b.p * r.slot) (io : ∀ d ∈ s.out, d.act ≤ s.c.b.p * d.time ∧ d.time ≤ s.now) :
    s.Inv t0 W :=
  ⟨l.wpos, l.budget, l.covered, ip, io⟩

theorem CHist.Inv.init (p q burst t0 : Nat) : (CHist.init p q burst t0).Inv t0 0 :=
  .of_ledger Ledger.init nofun nofun

theorem CHist.Inv.shape {p q burst t0 : Nat} (hp : 0 < p) {s s' : CHist} (w : s.WF p q burst t0) {W δ : Int}
    {e : CEv} (i : s.Inv t0 W) (sh : CHist.Step s e s' δ) (hW : 0 ≤ W + δ) : s'.Inv t0 (W + δ) := by
  have hT := Bucket.tokensAt_eq w.last_le
  have l := i.ledger
  have ip := i.pend_ok
  have io := i.out_ok
  have ipe (j : Nat) : ∀ r ∈ s.pending.eraseIdx j, r.act ≤ s.c.b.p * r.slot :=
    fun r hr => ip r (List.mem_of_mem_eraseIdx hr)
  cases sh with
  | adv dt =>
    rw [Int.add_zero]
    exact .of_ledger (l.adv (Nat.le_add_right _ _)) ip
      fun d hd => ⟨(io d hd).1, Nat.le_trans (io d hd).2 (Nat.le_add_right _ _)⟩
  | same => rw [Int.add_zero]; exact i
  | drop j r hr => exact .of_ledger (l.perm (s.live_erase j r hr)).drop (ipe j) io
  | takeOut _ hd =>
    rw [Int.add_zero]
    refine .of_ledger (l.advance w.last_le hT).take ip (List.forall_mem_cons.mpr ⟨⟨?_, Nat.le_refl _⟩, io⟩)
    rw [Bucket.actScaled, Bucket.deficit_zero_of_allow _ _ hd]; exact Nat.le_refl _
  | takePend _ =>
    rw [Int.add_zero]
    refine .of_ledger ((l.advance w.last_le hT).take.perm ?_) (List.forall_mem_append.mpr ⟨ip, ?_⟩) io
    · show (s.c.b.actScaled s.now :: s.live).Perm (s.out.map (·.act) ++ (s.pending ++ [_]).map Resv.act)
      rw [List.map_append, ← List.append_assoc]
      exact (List.perm_append_singleton _ _).symm
    · intro r hr
      rw [List.mem_singleton.mp hr]
      exact s.c.b.actScaled_le_slot s.now (w.hp ▸ hp)
  | use j r hr hle =>
    rw [Int.add_zero]
    refine .of_ledger (l.perm (s.live_erase j r hr)) (ipe j) (List.forall_mem_cons.mpr ⟨⟨?_, Nat.le_refl _⟩, io⟩)
    exact Nat.le_trans (ip r (List.mem_of_getElem? hr)) (Nat.mul_le_mul_left _ hle)
  | give _ => rw [Int.add_zero]; exact .of_ledger (l.advance w.last_le hT).give ip io
  | credit j r hr =>
    exact .of_ledger (((l.perm (s.live_erase j r hr)).drop.advance w.last_le hT).refund hW (by omega))
      (ipe j) io

theorem CHist.inv_run {p q burst t0 : Nat} (hp : 0 < p) (h : List CEv) :
    ∀ {s : CHist} {W : Int}, s.WF p q burst t0 → s.Inv t0 W → h.all CEv.timely = true → s.wasteOk W h = true →
      (s.run h).WF p q burst t0 ∧ ∃ W', (s.run h).Inv t0 W' := by
  induction h with
  | nil => intro s W w i _ _; exact ⟨w, W, i⟩
  | cons e h ih =>
    intro s W w i ht hok
    simp only [List.all_cons, Bool.and_eq_true] at ht
    simp only [CHist.wasteOk, Bool.and_eq_true, decide_eq_true_eq] at hok
    have sh := CHist.step_shape s e w.ninf (w.hp ▸ hp) w.last_le ht.1
    exact ih (w.shape sh) (CHist.Inv.shape hp w i sh hok.1) ht.2 hok.2

theorem CHist.wasteStep_nonneg (s : CHist) (e : CEv) (hok : s.creditOk e = true) : 0 ≤ s.wasteStep e := by
  fun_cases CHist.wasteStep s e
  case case1 i r hr => -- `cancel i` of a pending reservation
    simp only [CHist.creditOk, hr, Bool.or_eq_true, decide_eq_true_eq] at hok
    rw [CHist.credited_eq]
    split <;> omega
  all_goals exact Int.le_refl _

theorem CHist.wasteOk_of_runOk (h : List CEv) :
    ∀ (s : CHist) (W : Int), 0 ≤ W → s.runOk h = true → s.wasteOk W h = true := by
  induction h with
  | nil => intro s W _ _; rfl
  | cons e h ih =>
    intro s W hW hok
    simp only [CHist.runOk, Bool.and_eq_true] at hok
    have := s.wasteStep_nonneg e hok.1
    simp only [CHist.wasteOk, Bool.and_eq_true, decide_eq_true_eq]
    exact ⟨by omega, ih _ _ (by omega) hok.2⟩

theorem CHist.Inv.prefix_bound {p q burst t0 : Nat} {s : CHist} {W : Int} (w : s.WF p q burst t0) (i : s.Inv t0 W) :
    (q * nsPerSec) * s.effective (p * s.now) + p * t0
      ≤ burst * (q * nsPerSec) + p * s.now + (q * nsPerSec) * s.returned := by
  have := i.ledger.prefix_bound
  rwa [Bucket.unit, Bucket.cap, Bucket.unit, w.hp, w.hq, w.hburst] at this

theorem CHist.Inv.sent_le_effective {p q burst t0 : Nat} {s : CHist} {W : Int} (w : s.WF p q burst t0)
    (i : s.Inv t0 W) : s.sent ≤ s.effective (p * s.now) := by
  have io := i.out_ok
  rw [w.hp] at io
  unfold CHist.sent CHist.effective CHist.live
  rw [List.countP_append]
  rw [countP_map_le_eq_length _ _ _ fun d hd => Nat.le_trans (io d hd).1 (Nat.mul_le_mul_left _ (io d hd).2)]
  exact Nat.le_add_right _ _

theorem CHist.Inv.datagrams_bound {p q burst t0 : Nat} {s : CHist} {W : Int} (w : s.WF p q burst t0) (i : s.Inv t0 W) :
    (q * nsPerSec) * s.sent + p * t0 ≤ burst * (q * nsPerSec) + p * s.now + (q * nsPerSec) * s.returned :=
  Nat.le_trans (Nat.add_le_add_right (Nat.mul_le_mul_left _ (i.sent_le_effective w)) _) (i.prefix_bound w)

end Dht
