/- The getput client (Model/Getput.lean): one specification per fold over the replies. -/
import DhtVerif.Model.Getput
namespace Dht.Getput
open Dht.B44

/-- One turn of the `receiveResults` loop on a mutable result. -/
def pick (a v : GetResult) : GetResult := if v.seq ≥ a.seq then v else a

theorem foldl_pick_spec (rs : List GetResult) (a : GetResult) :
    (rs.foldl pick a = a ∧ ∀ x ∈ rs, x.seq < a.seq) ∨
    (∃ m pre post, rs.foldl pick a = m ∧ a.seq ≤ m.seq ∧ rs = pre ++ m :: post ∧
      (∀ x ∈ pre, x.seq ≤ m.seq) ∧ (∀ x ∈ post, x.seq < m.seq)) := by
  induction rs generalizing a with
  | nil => exact Or.inl ⟨rfl, nofun⟩
  | cons v rest ih =>
    rw [List.foldl_cons]
    fun_cases pick a v
    case case1 hav => -- `v` reaches the maximum so far and replaces it
      rcases ih v with ⟨hm, hlt⟩ | ⟨m, pre, post, hm, hge, he, hpre, hpost⟩
      · exact Or.inr ⟨v, [], rest, hm, hav, rfl, nofun, hlt⟩
      · exact Or.inr ⟨m, v :: pre, post, hm, Int.le_trans hav hge, congrArg (v :: ·) he,
          List.forall_mem_cons.mpr ⟨hge, hpre⟩, hpost⟩
    case case2 hva => -- `v` is smaller
      replace hva := Int.not_le.mp hva
      rcases ih a with ⟨hm, hlt⟩ | ⟨m, pre, post, hm, hge, he, hpre, hpost⟩
      · exact Or.inl ⟨hm, List.forall_mem_cons.mpr ⟨hva, hlt⟩⟩
      · exact Or.inr ⟨m, v :: pre, post, hm, hge, congrArg (v :: ·) he,
          List.forall_mem_cons.mpr ⟨Int.le_trans (Int.le_of_lt hva) hge, hpre⟩, hpost⟩

theorem pick_mem (rs : List GetResult) (a : GetResult) : rs.foldl pick a = a ∨ rs.foldl pick a ∈ rs := by
  rcases foldl_pick_spec rs a with ⟨h, _⟩ | ⟨m, pre, post, hm, _, he, _⟩
  · exact Or.inl h
  · rw [hm, he]; exact Or.inr (List.mem_append_right _ List.mem_cons_self)

theorem getLoop_spec (rs : List GetResult) (ret : GetResult) (got : Bool) :
    (∃ pre v post, rs = pre ++ v :: post ∧ (∀ x ∈ pre, x.isMutable = true) ∧ v.isMutable = false ∧
        getLoop ret got rs = (v, true)) ∨
    ((∀ x ∈ rs, x.isMutable = true) ∧ getLoop ret got rs = (rs.foldl pick ret, got || !rs.isEmpty)) := by
  induction rs generalizing ret got with
  | nil => exact Or.inr ⟨fun x hx => (by cases hx), by simp [getLoop]⟩
  | cons v rest ih =>
    cases hv : v.isMutable with
    | false => exact Or.inl ⟨[], v, rest, rfl, fun x hx => (by cases hx), hv, by simp [getLoop, hv]⟩
    | true =>
      have hstep : getLoop ret got (v :: rest) = getLoop (pick ret v) true rest := by
        by_cases hge : v.seq ≥ ret.seq <;>
          simp only [getLoop, pick, hv, hge, Bool.not_true, Bool.false_eq_true, if_false, if_true]
      rw [hstep, List.foldl_cons]
      rcases ih (pick ret v) true with ⟨pre, w, post, he, hp, hw, hl⟩ | ⟨hall, hl⟩
      · exact Or.inl ⟨v :: pre, w, post, by rw [he]; rfl, List.forall_mem_cons.mpr ⟨hv, hp⟩, hw, hl⟩
      · exact Or.inr ⟨List.forall_mem_cons.mpr ⟨hv, hall⟩, by rw [hl]; simp⟩

/-- Sequence numbers are `int64`s: never below the value `Get` starts from. -/
def SeqsInRange (rs : List GetResult) : Prop := ∀ x ∈ rs, x.isMutable = true → minInt64 ≤ x.seq

theorem getFold_nil : getFold [] = none := by
  simp [getFold, getLoop]

theorem getFold_cases (rs : List GetResult) (hr : SeqsInRange rs) :
    (rs = [] ∧ getFold rs = none) ∨
    (∃ pre v post, rs = pre ++ v :: post ∧ (∀ x ∈ pre, x.isMutable = true) ∧ v.isMutable = false ∧
        getFold rs = some v) ∨
    ((∀ x ∈ rs, x.isMutable = true) ∧
      ∃ res pre post, getFold rs = some res ∧ rs = pre ++ res :: post ∧
        (∀ x ∈ pre, x.seq ≤ res.seq) ∧ (∀ x ∈ post, x.seq < res.seq)) := by
  unfold getFold
  rcases getLoop_spec rs initResult false with ⟨pre, v, post, he, hp, hv, hl⟩ | ⟨hall, hl⟩
  · exact Or.inr (Or.inl ⟨pre, v, post, he, hp, hv, by rw [hl]; rfl⟩)
  · rw [hl]
    cases rs with
    | nil => exact Or.inl ⟨rfl, rfl⟩
    | cons w rest =>
      refine Or.inr (Or.inr ⟨hall, ?_⟩)
      rcases foldl_pick_spec (w :: rest) initResult with ⟨_, hlt⟩ | ⟨m, pre, post, hm, _, he, h1, h2⟩
      · -- the start value cannot survive: `w` is an `int64`
        exact absurd (hlt w List.mem_cons_self)
          (Int.not_lt.mpr (hr w List.mem_cons_self (hall w List.mem_cons_self)))
      · exact ⟨m, pre, post, by rw [hm]; rfl, he, h1, h2⟩

theorem le_of_split {rs pre post : List GetResult} {res : GetResult} (he : rs = pre ++ res :: post)
    (h1 : ∀ x ∈ pre, x.seq ≤ res.seq) (h2 : ∀ x ∈ post, x.seq < res.seq) : ∀ x ∈ rs, x.seq ≤ res.seq := by
  rw [he]
  exact List.forall_mem_append.mpr ⟨h1, List.forall_mem_cons.mpr ⟨Int.le_refl _, fun x hx => Int.le_of_lt (h2 x hx)⟩⟩

theorem getFold_mem (rs : List GetResult) (hr : SeqsInRange rs) (res : GetResult)
    (h : getFold rs = some res) : res ∈ rs := by
  rcases getFold_cases rs hr with ⟨_, hn⟩ | ⟨pre, v, post, he, _, _, hs⟩ | ⟨_, r, pre, post, hs, he, _, _⟩
  · rw [hn] at h; cases h
  · rw [hs] at h; cases h; rw [he]; simp
  · rw [hs] at h; cases h; rw [he]; simp

theorem getFold_none_iff (rs : List GetResult) : getFold rs = none ↔ rs = [] := by
  refine ⟨fun h => ?_, fun h => h ▸ getFold_nil⟩
  unfold getFold at h
  rcases getLoop_spec rs initResult false with ⟨_, _, _, _, _, _, hl⟩ | ⟨_, hl⟩
  · rw [hl] at h; cases h
  · rw [hl] at h
    cases rs with
    | nil => rfl
    | cons v rest => cases h

theorem getFold_of_immutable {rs : List GetResult} {x : GetResult} (hx : x ∈ rs) (hm : x.isMutable = false) :
    ∃ v ∈ rs, v.isMutable = false ∧ getFold rs = some v := by
  unfold getFold
  rcases getLoop_spec rs initResult false with ⟨pre, v, post, he, _, hv, hl⟩ | ⟨hall, _⟩
  · exact ⟨v, he ▸ List.mem_append_right _ List.mem_cons_self, hv, by rw [hl]; rfl⟩
  · rw [hall x hx] at hm; cases hm

/-- Whether a value is found, its kind and its sequence number depend on the multiset of results only
(sequence numbers in range, immutable results with `seq` 0): which of the three cases of `getFold_cases` applies does, and so does the largest `seq`. -/
theorem getFold_key_perm {rs rs' : List GetResult} (hp : rs'.Perm rs) (hr : SeqsInRange rs)
    (himm : ∀ x ∈ rs, x.isMutable = false → x.seq = 0) :
    (getFold rs').map (fun r => (r.isMutable, r.seq)) = (getFold rs).map (fun r => (r.isMutable, r.seq)) := by
  have hr' : SeqsInRange rs' := fun x hx hm => hr x (hp.mem_iff.mp hx) hm
  rcases getFold_cases _ hr with ⟨hnil, hn⟩ | ⟨pre, v, post, he, _, hv, hs⟩ | ⟨hall, r, pre, post, hs, he, h1, h2⟩
  · rw [hn, (hnil ▸ hp : rs'.Perm []).eq_nil, getFold_nil]
  · have hvm : v ∈ rs := by rw [he]; simp
    obtain ⟨v', hv'm, hv', hs'⟩ := getFold_of_immutable (hp.mem_iff.mpr hvm) hv
    rw [hs, hs']
    simp only [Option.map_some, hv, hv', himm v' (hp.mem_iff.mp hv'm) hv', himm v hvm hv]
  · have hrm : r ∈ rs := by rw [he]; simp
    rcases getFold_cases _ hr' with ⟨hnil', _⟩ | ⟨_, v', _, he', _, hv', _⟩ | ⟨hall', r', pre', post', hs', he', h1', h2'⟩
    · rw [hnil'] at hp; rw [hp.symm.eq_nil] at hrm; cases hrm
    · have := hall v' (hp.mem_iff.mp (by rw [he']; simp)); rw [hv'] at this; cases this
    · have hr'm : r' ∈ rs' := by rw [he']; simp
      have a := le_of_split he h1 h2 r' (hp.mem_iff.mp hr'm)
      have b := le_of_split he' h1' h2' r (hp.mem_iff.mpr hrm)
      rw [hs, hs']
      simp only [Option.map_some, hall r hrm, hall' r' hr'm, Int.le_antisymm a b]

section
variable {H : Bytes → Target} {verify : Key → Bytes → Bytes → Bool} {target : Target} {salt : Bytes}

/-- What an accepted reply looks like (the shape of `C12Client.ValidFrom`), and that the
immutable case carries sequence number 0. -/
theorem accept_some {r : GetReply} {res : GetResult} (h : accept H verify target salt r = some res) :
    res.v = r.v ∧ res.sig = r.sig ∧
    ((res.isMutable = false ∧ H r.bv = target) ∨
     (res.isMutable = true ∧ r.seq = some res.seq ∧ H (r.k ++ salt) = target ∧
        verify r.k (bufferToSign salt res.seq r.bv) r.sig = true)) ∧
    (res.isMutable = false → res.seq = 0) := by
  revert h
  fun_cases accept H verify target salt r <;> intro h <;> cases h
  case case1 hh => exact ⟨rfl, rfl, Or.inl ⟨rfl, hh⟩, fun _ => rfl⟩ -- the value hashes to the target: immutable
  case case3 q hq hc => exact ⟨rfl, rfl, Or.inr ⟨rfl, hq, hc.1, hc.2⟩, nofun⟩ -- key and signature fit: mutable

theorem mem_results {evs : List Event} {res : GetResult} :
    res ∈ results H verify target salt evs ↔ ∃ r, some r ∈ evs ∧ accept H verify target salt r = some res := by
  unfold results
  rw [List.mem_filterMap]
  constructor
  · rintro ⟨e, he, hacc⟩
    cases e with
    | none => cases hacc
    | some r => exact ⟨r, he, hacc⟩
  · rintro ⟨r, he, hacc⟩
    exact ⟨some r, he, hacc⟩

/-- The replies' sequence numbers are `int64`s. -/
def Int64Seqs (evs : List Event) : Prop := ∀ r q, some r ∈ evs → r.seq = some q → minInt64 ≤ q

theorem results_inRange {evs : List Event} (h : Int64Seqs evs) : SeqsInRange (results H verify target salt evs) := by
  intro x hx hm
  obtain ⟨r, hr, hacc⟩ := mem_results.mp hx
  rcases (accept_some hacc).2.2.1 with ⟨hf, _⟩ | ⟨_, hq, _⟩
  · rw [hm] at hf; cases hf
  · exact h r x.seq hr hq

theorem results_append (a b : List Event) :
    results H verify target salt (a ++ b) = results H verify target salt a ++ results H verify target salt b := by
  unfold results; exact List.filterMap_append

end

def pickSeq (a : Int) (v : GetResult) : Int := if v.isMutable ∧ v.seq > a then v.seq else a

theorem putAutoSeq_eq (rs : List GetResult) : putAutoSeq rs = rs.foldl pickSeq 0 := rfl

theorem foldl_pickSeq_spec (rs : List GetResult) (a : Int) :
    a ≤ rs.foldl pickSeq a ∧ (∀ x ∈ rs, x.isMutable = true → x.seq ≤ rs.foldl pickSeq a) ∧
    (rs.foldl pickSeq a = a ∨ ∃ x ∈ rs, x.isMutable = true ∧ x.seq = rs.foldl pickSeq a) := by
  induction rs generalizing a with
  | nil => exact ⟨Int.le_refl _, fun x hx => (by cases hx), Or.inl rfl⟩
  | cons v rest ih =>
    rw [List.foldl_cons]
    obtain ⟨hge, hmax, hmem⟩ := ih (pickSeq a v)
    have hp : a ≤ pickSeq a v ∧ (v.isMutable = true → v.seq ≤ pickSeq a v) ∧
        (pickSeq a v = a ∨ (v.isMutable = true ∧ v.seq = pickSeq a v)) := by
      unfold pickSeq
      by_cases h : v.isMutable = true ∧ v.seq > a
      · rw [if_pos h]; exact ⟨Int.le_of_lt h.2, fun _ => Int.le_refl _, Or.inr ⟨h.1, rfl⟩⟩
      · rw [if_neg h]; exact ⟨Int.le_refl _, fun hm => Int.not_lt.mp fun hgt => h ⟨hm, hgt⟩, Or.inl rfl⟩
    refine ⟨Int.le_trans hp.1 hge, List.forall_mem_cons.mpr ⟨fun hm => Int.le_trans (hp.2.1 hm) hge, hmax⟩, ?_⟩
    · rcases hmem with h | ⟨x, hx, hm, hs⟩
      · rcases hp.2.2 with h' | ⟨hm, hs⟩
        · exact Or.inl (h.trans h')
        · exact Or.inr ⟨v, List.mem_cons_self, hm, hs.trans h.symm⟩
      · exact Or.inr ⟨x, List.mem_cons_of_mem _ hx, hm, hs⟩

end Dht.Getput
