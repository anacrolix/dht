/-
C09 — replies propagate only good contacts, nearest buckets first, right family
(node-selection level: `table.closestNodes` under `closestGoodNodeInfos`).
-/
import DhtVerif.Model.Table
import DhtVerif.Lemmas.C09
import DhtVerif.Props.STGates
import DhtVerif.Props.STNodes
namespace Dht

/-- The reply size is the K of the source. -/
theorem C09.return_k : Gen.returnK = 8 ∧ Gen.tableK = 8 := by decide

/-- At most K contacts, all distinct. -/
theorem C09.returned_le_K_distinct (c : TableCfg) (now : Nat) (t : Table) (fam : Node → Bool) (k : Nat)
    (target : Id) (ret : List Node) (h : closestAllowed c now t fam k target ret = true) :
    ret.length ≤ k ∧ ret.Nodup := by
  have := C09L.walk_sound (C09L.walk_of_closest c now t fam k h) (Nat.zero_le _)
  exact ⟨by omega, this.2.1⟩

/-- Every returned contact is a table entry that is currently good — hence has
answered one of this node's queries and is not the node itself — and is of
the requested address family. -/
theorem C09.returned_good_and_responded (c : TableCfg) (now : Nat) (t : Table) (fam : Node → Bool) (k : Nat)
    (target : Id) (ret : List Node) (h : closestAllowed c now t fam k target ret = true) :
    ∀ n ∈ ret, n ∈ t ∧ isGood c now n = true ∧ n.lastResp.isSome = true ∧ n.id ≠ c.root ∧ fam n = true := by
  intro n hn
  obtain ⟨j, _, hm⟩ := (C09L.walk_sound (C09L.walk_of_closest c now t fam k h) (Nat.zero_le _)).2.2 n hn
  obtain ⟨ht, _, hg, hf⟩ := C09L.mem_eligible.mp hm
  exact ⟨ht, hg, (isGood_imp hg).2, (isBad_false (isGood_imp hg).1).1, hf⟩

/-- Bucket priority: if a contact from bucket `j` is returned, every eligible
contact of each nearer bucket `i` (`j < i ≤ start`) is returned too. -/
theorem C09.bucket_priority (c : TableCfg) (now : Nat) (t : Table) (fam : Node → Bool) (k : Nat)
    (target : Id) (ret : List Node) (h : closestAllowed c now t fam k target ret = true)
    (n : Node) (hn : n ∈ ret) (j : Nat) (hj : n.bucket c = some j)
    (i : Nat) (hji : j < i) (hi : i ≤ startBucket c target) :
    ∀ m ∈ eligible c now t fam i, m ∈ ret := by
  refine (C09L.walk_complete (C09L.walk_of_closest c now t fam k h) i hi).resolve_right ?_
  exact fun ⟨_, hlow⟩ => absurd (hlow n hn j hj) (by omega)

/-- Fewer than K are returned only when the buckets from the target's downwards are exhausted. -/
theorem C09.short_only_if_exhausted (c : TableCfg) (now : Nat) (t : Table) (fam : Node → Bool) (k : Nat)
    (target : Id) (ret : List Node) (h : closestAllowed c now t fam k target ret = true)
    (hshort : ret.length < k) :
    ∀ i, i ≤ startBucket c target → ∀ m ∈ eligible c now t fam i, m ∈ ret := by
  intro i hi
  refine (C09L.walk_complete (C09L.walk_of_closest c now t fam k h) i hi).resolve_right ?_
  exact fun ⟨hk, _⟩ => absurd hk (by omega)

/-- The walk starts at the target's own bucket (the last bucket for the node's own ID). -/
theorem C09.start_bucket (c : TableCfg) (target : Id) :
    (target = c.root → startBucket c target = 159) ∧
    (∀ i, bucketIndex c.root target = some i → startBucket c target = i) := by
  constructor
  · intro h; simp [startBucket, (bucketIndex_eq_none_iff c.root target).mpr h]
  · intro i h; simp [startBucket, h]

/-- The relation is inhabited: walking each bucket in table order is allowed
(when the table is duplicate-free). -/
theorem C09.det_allowed (c : TableCfg) (now : Nat) (t : Table) (fam : Node → Bool) (k : Nat) (target : Id)
    (hnd : t.Nodup) : closestAllowed c now t fam k target (closestDet c now t fam k target) = true := by
  obtain ⟨r, hr, hw⟩ := C09L.walkDet_spec c now t fam k hnd (startBucket c target) [] (Nat.zero_le _)
  unfold closestAllowed closestDet
  rw [hr]; simpa using hw

/-- Every returned contact sits in a bucket that the walk visits (at or below the start bucket). -/
theorem C09.returned_bucket_le_start (c : TableCfg) (now : Nat) (t : Table) (fam : Node → Bool) (k : Nat)
    (target : Id) (ret : List Node) (h : closestAllowed c now t fam k target ret = true) :
    ∀ n ∈ ret, ∃ j, j ≤ startBucket c target ∧ n.bucket c = some j ∧ n ∈ eligible c now t fam j := by
  intro n hn
  obtain ⟨j, hj, hm⟩ := (C09L.walk_sound (C09L.walk_of_closest c now t fam k h) (Nat.zero_le _)).2.2 n hn
  exact ⟨j, hj, C09L.eligible_bucket hm, hm⟩

/-! ### Non-vacuity -/

namespace C09.Ex
def idOf (x : UInt8) : Id := List.replicate 19 0 ++ [x]
def cfg : TableCfg := { root := List.replicate 20 0 }
def nd (x : UInt8) (p : Nat) : Node := { id := idOf x, addr := { ip := [10, 0, 0, x], port := p }, lastResp := some 0 }
/-- buckets: `1` ↦ 159, `2`,`3` ↦ 158, `4` ↦ 157 (`5` never responded: not good). -/
def tbl : Table := [nd 1 1, nd 2 2, nd 3 3, nd 4 4, { nd 5 5 with lastResp := none }]
def all : Node → Bool := fun _ => true
end C09.Ex

open C09.Ex in
/-- The target's bucket is 158; with `k = 2` the whole of bucket 158 (either order) is a legal answer … -/
example : startBucket cfg (idOf 2) = 158 ∧
    closestAllowed cfg 0 tbl all 2 (idOf 2) [nd 3 3, nd 2 2] = true ∧
    closestAllowed cfg 0 tbl all 2 (idOf 2) [nd 2 2, nd 3 3] = true := by decide +kernel

open C09.Ex in
/-- … a selection that skips an entry of the nearer bucket 158 in favour of bucket 157 is rejected,
as are duplicates, a non-good entry, and an over-long answer. -/
example :
    closestAllowed cfg 0 tbl all 2 (idOf 2) [nd 2 2, nd 4 4] = false ∧
    closestAllowed cfg 0 tbl all 2 (idOf 2) [nd 2 2, nd 2 2] = false ∧
    closestAllowed cfg 0 tbl all 3 (idOf 2) [nd 2 2, nd 3 3, { nd 5 5 with lastResp := none }] = false ∧
    closestAllowed cfg 0 tbl all 2 (idOf 2) [nd 2 2, nd 3 3, nd 4 4] = false := by decide +kernel

open C09.Ex in
/-- `k = 3`: bucket 158 whole, then one from bucket 157; and a short answer when the buckets
below the start are exhausted (bucket 159 is never visited from start 158). -/
example :
    closestAllowed cfg 0 tbl all 3 (idOf 2) [nd 3 3, nd 2 2, nd 4 4] = true ∧
    closestAllowed cfg 0 tbl all 8 (idOf 2) [nd 3 3, nd 2 2, nd 4 4] = true ∧
    closestAllowed cfg 0 tbl all 8 (idOf 2) [nd 3 3, nd 2 2, nd 4 4, nd 1 1] = false ∧
    closestDet cfg 0 tbl all 3 (idOf 2) = [nd 2 2, nd 3 3, nd 4 4] ∧
    tbl.Nodup := by decide +kernel

/-- T1 by translation: `shouldReturnNodes` / `shouldReturnNodes6` in server.go are the model's BEP 32 gates,
and `Server.IsGood` / `Server.nodeErr` are the model's `isGood` / `isBad`, for all arguments. -/
theorem C09.gates_and_goodness_are_the_source (want : List (List UInt8)) (srcIp : List UInt8) (c : TableCfg) (now : Nat) (n : Node) :
    DExp.evalWith (srnCond want srcIp) (srnRet want srcIp) Gen.treeShouldReturnNodes = some (shouldReturnNodes want srcIp) ∧
    DExp.evalWith (srnCond want srcIp) (srnRet want srcIp) Gen.treeShouldReturnNodes6 = some (shouldReturnNodes6 want srcIp) ∧
    DExp.evalWith (isGoodCond c n) (isGoodRet c now n) Gen.treeIsGood = some (isGood c now n) ∧
    DExp.evalWith (nodeErrCond c n) nodeErrRet Gen.treeNodeErr = some (isBad c n) :=
  ⟨(SourceTrees.shouldReturnNodes want srcIp).1, (SourceTrees.shouldReturnNodes want srcIp).2,
   SourceTrees.isGood c now n, SourceTrees.nodeErr c n⟩

end Dht
