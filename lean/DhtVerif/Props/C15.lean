/-
C15 — KRPC wire codec round-trips and never panics.

Property theorems, and the example messages of their non-vacuity checks. All statements are about
the executable models in DhtVerif/Model/Bencode.lean and DhtVerif/Model/Krpc.lean, for all values /
messages / byte strings, with no bound on sizes or nesting.
The models are tied to /repo on every run by the regenerated
schema and sizes (`Gen.schema*`, `Gen.size*`, pinned below) and by differential execution against
the Go codec (harness/c15.go).
-/
import DhtVerif.Model.Krpc
import DhtVerif.Lemmas.C15Bencode
import DhtVerif.Lemmas.C15BencodeSound
import DhtVerif.Lemmas.C15Compact
import DhtVerif.Lemmas.C15Krpc
namespace Dht
open Benc Krpc

/-! ## T1: the model's field lists and element sizes are those of the source -/

/-- `krpc.Msg`: fields, Go types, bencode keys, `omitempty` as mirrored by `Krpc.Msg`. -/
theorem C15.schema_msg_pinned : Gen.schemaMsg = Krpc.modelSchemaMsg := rfl
theorem C15.schema_msgArgs_pinned : Gen.schemaMsgArgs = Krpc.modelSchemaMsgArgs := rfl
theorem C15.schema_return_pinned : Gen.schemaReturn = Krpc.modelSchemaReturn := rfl
theorem C15.schema_bep51_pinned : Gen.schemaBep51Return = Krpc.modelSchemaBep51Return := rfl
theorem C15.schema_bep44_pinned : Gen.schemaBep44Return = Krpc.modelSchemaBep44Return := rfl

/-- The five `ElemSize` methods return the sizes the property names: an address is IP + 2-byte
port, a node is a 20-byte ID + address, an infohash is 20 bytes. -/
theorem C15.compact_sizes_pinned :
    Gen.sizeNodeAddr4 = 4 + 2 ∧ Gen.sizeNodeAddr6 = 16 + 2 ∧ Gen.sizeNodeInfo4 = 20 + 4 + 2 ∧
    Gen.sizeNodeInfo6 = 20 + 16 + 2 ∧ Gen.sizeInfohash = 20 := by decide

/-- The keys `toBV` emits are in the strictly increasing byte order in which
`makeEncodeFields` sorts them (and hence distinct). -/
theorem C15.emitted_keys_sorted (m : Msg) (a : MsgArgs) (r : Return) :
    keysSorted ((msgEntries m).map Prod.fst) = true ∧ keysSorted ((argsEntries a).map Prod.fst) = true ∧
    keysSorted ((returnEntries r).map Prod.fst) = true :=
  ⟨msgKeys_sorted m, argsKeys_sorted a, returnKeys_sorted r⟩

/-! ## The strict parser inverts the canonical encoder -/

/-- Parsing the encoding of a well-formed value followed by anything returns the value and
exactly the rest, for every fuel that covers the encoding. -/
theorem C15.dec_enc_fuel (v : BV) (h : Benc.wf v = true) (rest : List UInt8) (f : Nat)
    (hf : (enc v).length ≤ f) : dec f (enc v ++ rest) = some (v, rest) :=
  Benc.dec_enc_fuel v h rest f hf

/-- `dec_enc` with the fuel the driver uses (the input length). -/
theorem C15.dec_enc (v : BV) (h : Benc.wf v = true) (rest : List UInt8) :
    decode (enc v ++ rest) = some (v, rest) := by
  unfold decode
  exact Benc.dec_enc_fuel v h rest _ (by simp)

/-- A datagram that is exactly one encoded value parses to that value. -/
theorem C15.decodeAll_enc (v : BV) (h : Benc.wf v = true) : decodeAll (enc v) = some v := by
  have := C15.dec_enc v h []
  simp only [List.append_nil] at this
  simp [decodeAll, this]

/-- Distinct well-formed values have distinct encodings. -/
theorem C15.enc_injective (v w : BV) (hv : Benc.wf v = true) (hw : Benc.wf w = true)
    (h : enc v = enc w) : v = w := by
  have h1 := C15.decodeAll_enc v hv
  have h2 := C15.decodeAll_enc w hw
  rw [h] at h1
  rw [h1] at h2
  exact Option.some.inj h2

/-- Conversely the strict parser accepts ONLY canonical encodings: whatever it returns is a
well-formed value whose encoding, followed by the returned rest, is the input. -/
theorem C15.dec_only_canonical (f : Nat) (bs : List UInt8) (v : BV) (rest : List UInt8)
    (h : dec f bs = some (v, rest)) : bs = enc v ++ rest ∧ Benc.wf v = true :=
  (Benc.dec_sound_all f).1 bs v rest h

/-- Hence the parser is exactly the inverse of the encoder on well-formed values. -/
theorem C15.decode_iff (bs : List UInt8) (v : BV) (rest : List UInt8) :
    decode bs = some (v, rest) ↔ (Benc.wf v = true ∧ bs = enc v ++ rest) := by
  constructor
  · intro h
    exact (C15.dec_only_canonical _ bs v rest h).symm
  · rintro ⟨hw, rfl⟩
    exact C15.dec_enc v hw rest

/-! ## Round trip of messages -/

/-- What `bencode.Marshal` writes for a well-formed message is canonical bencode. -/
theorem C15.encoding_is_canonical (m : Msg) (h : m.wf = true) : Benc.wf (toBV m) = true :=
  toBV_wf m h

/-- Encoding a well-formed message never hits the width assertion of `marshalBinarySlice`. -/
theorem C15.encode_never_panics (m : Msg) (h : m.wf = true) : m.encPanics = false :=
  wf_not_encPanics m h

/-- Typed round trip: decoding the encoding of any well-formed message (every field of
`Msg`, `MsgArgs`, `Return`, `Bep51Return`, `Bep44Return`, `Error` present or absent) gives the
same message up to `canon`, which only erases what the wire cannot carry: an empty compact
`nodes`/`nodes6` list comes back nil, a v4-mapped address in `nodes` comes back as 4 bytes, a
4-byte address in `nodes6` as 16 bytes. Every other field, including nil versus empty for
`want`, `values`, `salt`, `samples`, `token`, and every pointer's presence, is preserved exactly. -/
theorem C15.roundtrip (m : Msg) (h : m.wf = true) : fromBV (toBV m) = .ok m.canon :=
  fromBV_toBV m h

/-- The same on bytes: the datagram decodes, with no trailing bytes, to the canonical message. -/
theorem C15.roundtrip_bytes (m : Msg) (h : m.wf = true) :
    decodeMsg (encodeMsg m) = .ok (m.canon, 0) := by
  have hd := C15.dec_enc (toBV m) (toBV_wf m h) []
  simp only [List.append_nil] at hd
  simp only [decodeMsg, encodeMsg, hd, fromBV_toBV m h]
  rfl

/-- `canon` is idempotent, and it keeps a message well-formed. -/
theorem C15.canon_idem (m : Msg) : m.canon.canon = m.canon := Msg.canon_idem m

theorem C15.canon_wf (m : Msg) (h : m.wf = true) : m.canon.wf = true := Msg.canon_wf m h

/-- `canon` changes the encoding only by dropping empty compact lists: when neither `nodes` nor
`nodes6` is an empty non-nil list, the canonical message encodes to the same bytes. (A non-nil
empty `nodes` is written as `5:nodes0:` and decodes to nil, which is written without the key:
the first re-encoding is shorter, every later one is identical, see `reencode_fixpoint`.) -/
theorem C15.canon_same_encoding (m : Msg)
    (h : ∀ r, m.r = some r → r.nodes ≠ some [] ∧ r.nodes6 ≠ some []) : toBV m.canon = toBV m :=
  toBV_canon m h

/-! ## Decode → re-encode is a fixpoint -/

/-- Whatever the typed decoder returns is a well-formed message that `canon` leaves alone. -/
theorem C15.decoded_is_wf (b : BV) (m : Msg) (h : fromBV b = .ok m) : m.wf = true ∧ m.canon = m :=
  fromBV_ok b m h

/-- For every value that decodes, re-encoding succeeds (no width panic, canonical bencode) and
is a fixpoint: decoding the re-encoded value gives the very same message, hence the same bytes
again. -/
theorem C15.reencode_fixpoint (b : BV) (m : Msg) (h : fromBV b = .ok m) :
    m.encPanics = false ∧ Benc.wf (toBV m) = true ∧ fromBV (toBV m) = .ok m := by
  obtain ⟨hw, hc⟩ := fromBV_ok b m h
  refine ⟨wf_not_encPanics m hw, toBV_wf m hw, ?_⟩
  have := fromBV_toBV m hw
  rwa [hc] at this

/-- The same on bytes, for every datagram the model decodes (trailing bytes allowed, as the
server allows them): the re-encoded datagram decodes to the same message with nothing left
over, so encoding again reproduces the re-encoded bytes. -/
theorem C15.reencode_fixpoint_bytes (bs : List UInt8) (m : Msg) (n : Nat)
    (h : decodeMsg bs = .ok (m, n)) :
    decodeMsg (encodeMsg m) = .ok (m, 0) := by
  obtain ⟨hw, hc⟩ := decodeMsg_ok bs _ h
  have := C15.roundtrip_bytes m hw
  rwa [hc] at this

/-! ## Compact lists -/

/-- Compact node, address and infohash lists (6, 18, 26, 38, 20 bytes per entry) decode exactly
the strings whose length is a multiple of the entry size; what is decoded re-encodes to the
identical bytes, every entry has the entry size; any other length is an error. -/
theorem C15.compact_len (size : Nat) (hs : size ∈ Krpc.compactSizes) (b : List UInt8) :
    ((decCompact size b).isSome = true ↔ b.length % size = 0) ∧
    (∀ l, decCompact size b = some l → encCompact l = b ∧ ∀ c ∈ l, c.length = size) :=
  ⟨decCompact_isSome_iff size (compactSizes_pos size hs) b, decCompact_sound size b⟩

theorem C15.compact_sizes_are : Krpc.compactSizes = [6, 18, 26, 38, 20] := by decide

/-- Conversely, entries of the right width always decode back to themselves. -/
theorem C15.compact_enc_dec (size : Nat) (hs : size ∈ Krpc.compactSizes) (l : List (List UInt8))
    (hl : ∀ c ∈ l, c.length = size) : decCompact size (encCompact l) = some l :=
  decCompact_flatten size (compactSizes_pos size hs) l hl

/-! ## No decoder panics -/

/-- `NodeAddr.UnmarshalBinary` never panics: fewer than 2 bytes is an error. -/
theorem C15.nodeAddr_unmarshal_total (b : List UInt8) :
    NodeAddr.unmarshalBinary b = (if b.length < 2 then .error else .ok (NodeAddr.ofBytes b)) := rfl

/-- With a length test in front of `b[20:]`, `NodeInfo.UnmarshalBinary` never panics: short
input is an error (this is what the property demands; F10). -/
theorem C15.nodeInfo_unmarshal_total_if_guarded (b : List UInt8) :
    NodeInfo.unmarshalBinary true b ≠ .crash :=
  fun h => Bool.noConfusion ((NodeInfo.unmarshalBinary_crash_iff true b).mp h).1

/-- Kept counterexample: the function as transcribed from a tree WITHOUT the length test
panics on every input shorter than 20 bytes, and only there. The harness' direct oracle
reports the concrete input when the working tree behaves like this. -/
theorem C15.nodeInfo_unguarded_crashes_iff (b : List UInt8) :
    NodeInfo.unmarshalBinary false b = .crash ↔ b.length < 20 :=
  (NodeInfo.unmarshalBinary_crash_iff false b).trans (and_iff_right rfl)

/-- Inside a message the compact node decoders hand `NodeInfo.UnmarshalBinary` only whole
entries (26 or 38 bytes), on which it succeeds with or without the length test: no datagram
can reach the unguarded slice through `nodes`/`nodes6` or the nodes file. -/
theorem C15.nodeInfo_entry_total (guarded : Bool) (c : List UInt8) (h : 22 ≤ c.length) :
    NodeInfo.unmarshalBinary guarded c = .ok (NodeInfo.ofBytes c) := by
  unfold NodeInfo.unmarshalBinary NodeAddr.unmarshalBinary
  have h1 : ¬ c.length < 20 := by omega
  have h2 : ¬ (c.drop 20).length < 2 := by rw [List.length_drop]; omega
  simp only [h1, h2, if_false]
  rfl

/-- The typed decoder is total: every value gets one of the three outcomes, and `ok` results
are well-formed (no partiality or crash outcome exists in `fromBV`; the third-party reflection
decoder's own panic-freedom on arbitrary bytes is observed by the harness, not proved). -/
theorem C15.fromBV_total (b : BV) :
    (∃ m, fromBV b = .ok m ∧ m.wf = true) ∨ fromBV b = .err ∨ fromBV b = .unmodelled := by
  cases h : fromBV b with
  | ok m => exact Or.inl ⟨m, rfl, (fromBV_ok b m h).1⟩
  | err => exact Or.inr (Or.inl rfl)
  | unmodelled => exact Or.inr (Or.inr rfl)

/-! ## Non-vacuity -/

/-- A well-formed bencode value with a nested dictionary and list. -/
example : Benc.wf (.dict [([97], .int (-3)), ([98], .list [.bytes [], .dict []])]) = true := by decide

/-- Unsorted or duplicate keys are not well-formed. -/
example : Benc.wf (.dict [([98], .int 1), ([97], .int 2)]) = false := by decide
example : Benc.wf (.dict [([97], .int 1), ([97], .int 2)]) = false := by decide

/-- The encoder and the strict parser on a concrete value: `d1:ai-3e1:bl0:deee`. -/
example : enc (.dict [([97], .int (-3)), ([98], .list [.bytes [], .dict []])]) =
    [100, 49, 58, 97, 105, 45, 51, 101, 49, 58, 98, 108, 48, 58, 100, 101, 101, 101] := by
  decide +kernel

/-- The strict parser rejects `i-0e`, `i03e`, `ie`, a length prefix with a leading zero,
unsorted keys, and accepts the same keys in order. -/
example : (decode [105, 45, 48, 101]).isNone = true := by decide +kernel
example : (decode [105, 48, 51, 101]).isNone = true := by decide +kernel
example : (decode [105, 101]).isNone = true := by decide +kernel
example : (decode [48, 49, 58, 97]).isNone = true := by decide +kernel
example : (decode [100, 49, 58, 98, 48, 58, 49, 58, 97, 48, 58, 101]).isNone = true := by decide +kernel
example : (decode [100, 49, 58, 97, 48, 58, 49, 58, 98, 48, 58, 101]).isSome = true := by decide +kernel

/-- A ping query: `d1:ad2:id20:abcdefghij0123456789e1:q4:ping1:t2:aa1:y1:qe`. -/
def C15.exPing : Msg :=
  { q := [112, 105, 110, 103], t := [97, 97], y := [113], r := none, e := none, ip := none,
    readOnly := false, clientId := [],
    a := some { id := [97,98,99,100,101,102,103,104,105,106,48,49,50,51,52,53,54,55,56,57],
                infoHash := zeros 20, target := zeros 20, token := [], port := none, impliedPort := false,
                want := none, noSeed := 0, scrape := 0, v := none, seq := none, cas := 0, k := zeros 32,
                salt := none, sig := zeros 64 } }

example : C15.exPing.wf = true := by decide

example : encodeMsg C15.exPing =
    [100, 49, 58, 97, 100, 50, 58, 105, 100, 50, 48, 58, 97, 98, 99, 100, 101, 102, 103, 104, 105, 106, 48, 49,
     50, 51, 52, 53, 54, 55, 56, 57, 101, 49, 58, 113, 52, 58, 112, 105, 110, 103, 49, 58, 116, 50, 58, 97, 97,
     49, 58, 121, 49, 58, 113, 101] := by decide +kernel

/-- A response carrying every list kind: an empty `nodes` (erased by `canon`), a 4-byte contact
in `nodes6` (widened by `canon`), `values` of odd widths, empty `samples`, a BEP 44 value. -/
def C15.exReturn : Msg :=
  { q := [], a := none, t := [1], y := [114], e := some ⟨201, [120]⟩, ip := some ⟨[1, 2, 3, 4], 6881⟩,
    readOnly := true, clientId := [76, 84],
    r := some { id := zeros 20, nodes := some [], nodes6 := some [⟨zeros 20, ⟨[9, 9, 9, 9], 1⟩⟩],
                token := some [], values := some [⟨[], 0⟩, ⟨[1, 2, 3], 65535⟩], bfsd := some (zeros 256),
                bfpe := none, interval := some (-1), num := none, samples := some [],
                v := some (.dict [([97], .int 1)]), k := zeros 32, sig := zeros 64, seq := some 7 } }

example : C15.exReturn.wf = true := by decide +kernel

/-- `canon` is not the identity there, and the round trip gives exactly `canon`. -/
example : (C15.exReturn.canon.r.map (·.nodes.isNone)) = some true := by decide
example : (C15.exReturn.canon.r.bind (·.nodes6)).map (·.map (·.addr.ip.length)) = some [16] := by decide

/-- Messages outside the quantifier exist and are recognised: a v6 contact in `nodes`. -/
example : ({ C15.exReturn with r := C15.exReturn.r.map (fun r => { r with nodes := some [⟨zeros 20, ⟨zeros 16, 1⟩⟩] }) } : Msg).encPanics = true := by
  decide +kernel

/-- Decoder outcomes other than `ok` exist: a 19-byte `id` is an error, a list where the
argument dictionary should be is not judged. -/
example : (match fromBV (.dict [(kA, .dict [(kId, .bytes (zeros 19))])]) with | .err => true | _ => false) = true := by
  decide +kernel
example : (match fromBV (.dict [(kA, .list [])]) with | .unmodelled => true | _ => false) = true := by decide

/-- IDs longer than 20 bytes are cut, short arrays are zero padded, `ro` is any non-zero integer. -/
example : (match fromBV (.dict [(kA, .dict [(kId, .bytes (zeros 25)), (kK, .bytes [7])]), (kRo, .int 5)]) with
    | .ok m => m.readOnly && (m.a.map (fun a => a.id.length == 20 && a.k == 7 :: zeros 31)).getD false
    | _ => false) = true := by decide +kernel

/-- Compact lists: 6 bytes are one IPv4 address, 7 bytes are an error. -/
example : decCompact Gen.sizeNodeAddr4 [1, 2, 3, 4, 0, 80] = some [[1, 2, 3, 4, 0, 80]] := by decide +kernel
example : decCompact Gen.sizeNodeAddr4 [1, 2, 3, 4, 0, 80, 9] = none := by decide +kernel

/-- The unguarded `NodeInfo.UnmarshalBinary` on the empty input. -/
example : (match NodeInfo.unmarshalBinary false [] with | .crash => true | _ => false) = true := rfl

end Dht
