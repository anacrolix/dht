/-
C05 — the routing table is always a well-formed Kademlia table.

All theorems are over `DhtVerif/Model/Table.lean`, for every history of
table events (inbound queries / matched responses from arbitrary (address, ID)
pairs, API adds, ping time-outs, elapsed time) and every resolution of the
map-iteration nondeterminism.
-/
import DhtVerif.Model.Table
import DhtVerif.Lemmas.C05
namespace Dht

theorem C05.inv_init (c : TableCfg) : Table.Inv c [] := by
  refine ⟨?_, ?_, ?_, ?_, ?_⟩ <;> simp [bucketNodes]

/-- One event preserves well-formedness, whatever the eviction choice. -/
theorem C05.inv_step (c : TableCfg) (hroot : c.root.length = 20) (s s' : TblState) (ev : TblEv) (out : AddOutcome)
    (hinv : Table.Inv c s.table) (hev : ev.wf) (h : s.step c ev = some (s', out)) :
    Table.Inv c s'.table := by
  rcases TblState.step_cases h with ⟨ht, _⟩ | ⟨addr, tryAdd, upd, ch, hupd, hu, _⟩
  · rw [ht]; exact hinv
  · exact hinv.updateNode hroot hupd hev.idOf hu

/-- Well-formedness is preserved along any history from any well-formed state. -/
theorem C05.inv_run (c : TableCfg) (hroot : c.root.length = 20) (evs : List TblEv) (s0 s : TblState)
    (hinv : Table.Inv c s0.table) (hev : ∀ e ∈ evs, e.wf) (h : TblState.run c s0 evs = some s) :
    Table.Inv c s.table := by
  exact TblState.run_induction (P := fun s => Table.Inv c s.table) h hinv
    fun e he s1 s2 o h1 hs => C05.inv_step c hroot s1 s2 e o h1 (hev e he) hs

/-- Every reachable table is well-formed. -/
theorem C05.inv_reachable (c : TableCfg) (hroot : c.root.length = 20) (evs : List TblEv) (s : TblState)
    (hev : ∀ e ∈ evs, e.wf) (h : TblState.run c {} evs = some s) : Table.Inv c s.table := by
  exact C05.inv_run c hroot evs {} s (C05.inv_init c) hev h

/-- The bucket an entry sits in is the length of the bit prefix its ID shares with the node's own ID. -/
theorem C05.bucket_is_shared_prefix (c : TableCfg) (hroot : c.root.length = 20) (t : Table)
    (hinv : Table.Inv c t) (n : Node) (hn : n ∈ t) (hlen : n.id.length = 20) :
    ∃ i, n.bucket c = some i ∧ i < 160 ∧
      (∀ j, j < i → n.id.getBit j = c.root.getBit j) ∧ n.id.getBit i ≠ c.root.getBit i := by
  exact bucketIndex_spec c.root n.id hroot hlen (hinv.notRoot n hn)

/-- `Server.updateNode` does not panic on a well-formed table when the
map iteration meets *any* droppable entry first (or there is none). -/
theorem C05.no_panic_any_droppable (c : TableCfg) (now : Nat) (t : Table) (hinv : Table.Inv c t)
    (addr : NAddr) (id : Id) (tryAdd : Bool) (upd : Node → Node) (ch : Option Node)
    (hch : droppable c now t (upd { id := id, addr := addr }) = [] ∨
      ∃ d ∈ droppable c now t (upd { id := id, addr := addr }), ch = some d) :
    (updateNode c now t addr (some id) tryAdd upd ch).isSome = true := by
  apply updateNode_isSome hinv.bounded
  right; intro id' hid'; cases hid'; exact hch

/-- None of the `panic`s of table.go / `Server.addNode` is reachable: from a
well-formed table every event has a resolution under which the step is defined,
and with *any* droppable entry as the choice it is defined
(`C05.no_panic_any_droppable`). -/
theorem C05.no_panic (c : TableCfg) (hroot : c.root.length = 20) (s : TblState) (ev : TblEv)
    (hinv : Table.Inv c s.table) (hev : ev.wf) :
    ∃ ch, (s.step c (ev.withChoice ch)).isSome = true := by
  have _ := hroot
  have _ := hev
  cases ev with
  | pingFailed addr id =>
    refine ⟨none, ?_⟩
    simp only [TblEv.withChoice, TblState.step, Option.isSome_map]
    exact updateNode_isSome hinv.bounded (Or.inl rfl)
  | advance d => exact ⟨none, rfl⟩
  | _ =>
    simp only [TblEv.withChoice, TblState.step, Option.isSome_map]
    exact updateNode_exists_choice hinv.bounded ..

/-- The counts the API reports agree with the entries: the node count is the sum
of the bucket sizes, good nodes are non-bad nodes are nodes. -/
theorem C05.counts_agree (c : TableCfg) (now : Nat) (t : Table) (hinv : Table.Inv c t) :
    numNodes t = ((List.range 160).map (fun i => (bucketNodes c t i).length)).sum ∧
    numGoodNodes c now t ≤ (notBadNodes c t).length ∧ (notBadNodes c t).length ≤ numNodes t ∧
    (∀ n, n ∈ notBadNodes c t ↔ n ∈ t ∧ isBad c n = false) := by
  refine ⟨length_eq_sum_buckets c 160 t hinv.bucketed, ?_, List.length_filter_le _ _, ?_⟩
  · unfold numGoodNodes notBadNodes
    rw [← List.countP_eq_length_filter, ← List.countP_eq_length_filter]
    apply List.countP_mono_left
    intro n _ hg
    simp [isGood] at hg
    simp [hg.1]
  · intro n; simp [notBadNodes]

/-- Hence the table never holds more than 160·K entries. -/
theorem C05.size_bound (c : TableCfg) (t : Table) (hinv : Table.Inv c t) : numNodes t ≤ 160 * c.k := by
  rw [(C05.counts_agree c 0 t hinv).1]
  exact sum_le_mul 160 c.k _ hinv.bounded

/-! ## Non-vacuity: `Demo.hist` fills a bucket (k = 2) and performs a replacement -/

open Demo in
example : bucketIndex root (idx 4) = some 157 ∧ bucketIndex root (idx 5) = some 157 ∧
    bucketIndex root (idx 6) = some 157 ∧ bucketIndex root (idx 7) = some 157 := by decide +kernel

/-- The first three events fill bucket 157. -/
example : (TblState.run Demo.cfg {} (Demo.hist.take 3)).map (·.table) = some Demo.full.table := by decide +kernel

/-- Full bucket, newcomer not good, no bad entry: table unchanged. -/
example : Demo.full.step Demo.cfg Demo.evQuery7 = some (Demo.full, .unchanged "no room in bucket") := by rfl

/-- Full bucket, newcomer good, never-responded entries present: one is replaced. -/
example : Demo.full.step Demo.cfg Demo.evResp = some (Demo.after, .replaced Demo.n4) := by rfl

/-- With no choice given where one is needed the model step is undefined, … -/
example : Demo.full.step Demo.cfg (Demo.evResp.withChoice none) = none := by rfl

/-- … and either droppable entry is an admissible choice (`C05.no_panic_any_droppable`). -/
example : Demo.full.step Demo.cfg (Demo.evResp.withChoice (some Demo.n5)) =
    some ({ now := 5, table := [Demo.n4, Demo.n6] }, .replaced Demo.n5) := by rfl

/-- The whole history runs, ends in `[n5, n6]`, and the end table is well-formed
with bucket 157 full: the hypotheses of `C05.inv_reachable` / `C05.no_panic` /
`C05.size_bound` are satisfiable by a non-trivial instance. -/
example : ∃ s, TblState.run Demo.cfg {} Demo.hist = some s ∧ s.table = [Demo.n5, Demo.n6] ∧
    Table.Inv Demo.cfg s.table ∧ (bucketNodes Demo.cfg s.table 157).length = Demo.cfg.k ∧
    numNodes s.table = 2 := by
  obtain ⟨s, hr, h⟩ := Option.map_eq_some_iff.mp Demo.run_hist
  refine ⟨s, hr, h, C05.inv_reachable Demo.cfg rfl Demo.hist s Demo.hist_wf hr, ?_, ?_⟩
  · rw [h]; decide +kernel
  · rw [h]; rfl

example : ∃ i, Demo.n6.bucket Demo.cfg = some i ∧ i < 160 ∧
    (∀ j, j < i → Demo.n6.id.getBit j = Demo.cfg.root.getBit j) ∧
    Demo.n6.id.getBit i ≠ Demo.cfg.root.getBit i := by
  obtain ⟨s, hr, h⟩ := Option.map_eq_some_iff.mp Demo.run_hist
  have hinv := C05.inv_reachable Demo.cfg rfl Demo.hist s Demo.hist_wf hr
  rw [h] at hinv
  exact C05.bucket_is_shared_prefix Demo.cfg rfl _ hinv Demo.n6 (by simp) rfl

end Dht
