/- The K-nearest container: `insertSorted` on sorted lists with distinct keys, and the invariant `KNN.Inv` of any
sequence of allowed pushes (the container holds the `min k |L|` nearest of what was pushed). -/
import DhtVerif.Lemmas.C18Order
namespace Dht

def KElem.key (e : KElem) : Id × Addr := (e.id, e.addr.strKey)

theorem KElem.sameKey_iff (a b : KElem) : a.sameKey b = true ↔ a.key = b.key := by
  simp [KElem.sameKey, KElem.key]

theorem KElem.sameKey_false_iff (a b : KElem) : a.sameKey b = false ↔ a.key ≠ b.key := by
  rw [ne_eq, ← KElem.sameKey_iff]; cases a.sameKey b <;> simp

theorem KElem.dist_eq_of_key (t : Id) (a b : KElem) (h : a.key = b.key) : a.dist t = b.dist t := by
  have : a.id = b.id := congrArg Prod.fst h
  simp [KElem.dist, this]

def KNN.NodupK (l : List KElem) : Prop := l.Pairwise (fun a b => a.key ≠ b.key)

def KNN.SortedD (t : Id) (l : List KElem) : Prop := l.Pairwise (fun a b => a.dist t ≤ b.dist t)

theorem KNN.nodupKeys_iff (l : List KElem) : KNN.nodupKeys l = true ↔ KNN.NodupK l := by
  unfold KNN.NodupK
  fun_induction KNN.nodupKeys l with
  | case1 => simp
  | case2 x xs ih =>
    rw [List.pairwise_cons, Bool.and_eq_true, ih]
    apply and_congr_left'
    rw [Bool.not_eq_true', List.any_eq_false]
    constructor
    · intro h y hy e
      exact h y hy ((KElem.sameKey_iff y x).mpr e.symm)
    · intro h y hy e
      exact h y hy ((KElem.sameKey_iff y x).mp e).symm

theorem KNN.NodupK.nodup {l : List KElem} (h : KNN.NodupK l) : l.Nodup := by
  unfold KNN.NodupK at h
  unfold List.Nodup
  exact h.imp (fun hk e => hk (congrArg KElem.key e))

theorem KNN.sortedBy_iff (t : Id) (l : List KElem) : KNN.sortedBy t l = true ↔ KNN.SortedD t l := by
  unfold KNN.SortedD
  fun_induction KNN.sortedBy t l with
  | case1 => simp
  | case2 => simp
  | case3 a b rest ih =>
    rw [Bool.and_eq_true, ih, decide_eq_true_eq]
    exact (pairwise_cons_cons_iff (R := fun a b => a.dist t ≤ b.dist t) (fun _ _ _ => Nat.le_trans) a b rest).symm

theorem KNN.any_sameKey_iff (s : List KElem) (e : KElem) :
    s.any (·.sameKey e) = true ↔ ∃ x ∈ s, x.key = e.key := by
  simp [List.any_eq_true, KElem.sameKey_iff]

theorem KNN.upsert_of_mem (s : List KElem) (e : KElem) (h : ∃ x ∈ s, x.key = e.key) :
    KNN.upsert s e = s.map (fun x => if x.sameKey e then e else x) := by
  rw [KNN.upsert, if_pos ((KNN.any_sameKey_iff s e).mpr h)]

theorem KNN.upsert_of_not_mem (s : List KElem) (e : KElem) (h : ¬ ∃ x ∈ s, x.key = e.key) :
    KNN.upsert s e = s ++ [e] := by
  unfold KNN.upsert
  rw [if_neg (fun h' => h ((KNN.any_sameKey_iff s e).mp h'))]

theorem KNN.length_upsert_of_mem (s : List KElem) (e : KElem) (h : ∃ x ∈ s, x.key = e.key) :
    (KNN.upsert s e).length = s.length := by
  rw [KNN.upsert_of_mem s e h, List.length_map]

theorem KNN.length_upsert_of_not_mem (s : List KElem) (e : KElem) (h : ¬ ∃ x ∈ s, x.key = e.key) :
    (KNN.upsert s e).length = s.length + 1 := by
  rw [KNN.upsert_of_not_mem s e h, List.length_append]; rfl

theorem KNN.mem_upsert (s : List KElem) (e m : KElem) :
    m ∈ KNN.upsert s e ↔ m = e ∨ (m ∈ s ∧ m.key ≠ e.key) := by
  by_cases h : ∃ x ∈ s, x.key = e.key
  · rw [KNN.upsert_of_mem s e h, List.mem_map]
    obtain ⟨x, hx, hxe⟩ := h
    constructor
    · rintro ⟨y, hy, rfl⟩
      by_cases hk : y.sameKey e = true
      · exact Or.inl (if_pos hk)
      · rw [if_neg hk]
        exact Or.inr ⟨hy, fun hk' => hk ((KElem.sameKey_iff y e).mpr hk')⟩
    · rintro (rfl | ⟨hm, hk⟩)
      · exact ⟨x, hx, if_pos ((KElem.sameKey_iff x m).mpr hxe)⟩
      · exact ⟨m, hm, if_neg fun hk' => hk ((KElem.sameKey_iff m e).mp hk')⟩
  · rw [KNN.upsert_of_not_mem s e h, List.mem_append, List.mem_singleton]
    exact ⟨fun h' => h'.elim (fun hm => Or.inr ⟨hm, fun hk => h ⟨m, hm, hk⟩⟩) Or.inl,
      fun h' => h'.elim Or.inr fun h' => Or.inl h'.1⟩

theorem KNN.self_mem_upsert (s : List KElem) (e : KElem) : e ∈ KNN.upsert s e :=
  (KNN.mem_upsert s e e).mpr (Or.inl rfl)

theorem KNN.nodupK_upsert (s : List KElem) (e : KElem) (h : KNN.NodupK s) :
    KNN.NodupK (KNN.upsert s e) := by
  by_cases h' : ∃ x ∈ s, x.key = e.key
  · have hkey : ∀ x : KElem, (if x.sameKey e = true then e else x).key = x.key := fun x => by
      by_cases hk : x.sameKey e = true
      · rw [if_pos hk, (KElem.sameKey_iff x e).mp hk]
      · rw [if_neg hk]
    rw [KNN.upsert_of_mem s e h', KNN.NodupK, List.pairwise_map]
    simp only [hkey]
    exact h
  · rw [KNN.upsert_of_not_mem s e h', KNN.NodupK, List.pairwise_append]
    exact ⟨h, List.pairwise_singleton _ _,
      fun a ha b hb => List.mem_singleton.mp hb ▸ fun hk => h' ⟨a, ha, hk⟩⟩

theorem KNN.pushAllowed_iff (t : Id) (k : Nat) (old : List KElem) (e : KElem) (new : List KElem) :
    KNN.pushAllowed t k old e new = true ↔
      KNN.SortedD t new ∧ KNN.NodupK new ∧ (∀ m ∈ new, m ∈ KNN.upsert old e) ∧
      new.length = min k (KNN.upsert old e).length ∧
      ∀ c ∈ KNN.upsert old e, c ∈ new ∨ ∀ m ∈ new, m.dist t ≤ c.dist t := by
  unfold KNN.pushAllowed KNN.subsetOf
  simp only [Bool.and_eq_true, KNN.sortedBy_iff, KNN.nodupKeys_iff, List.all_eq_true,
    List.contains_iff_mem, beq_iff_eq, Bool.or_eq_true, decide_eq_true_eq, and_assoc]

theorem KNN.mem_foldl_upsert (l acc : List KElem) (x : KElem)
    (h : x ∈ l.foldl KNN.upsert acc) : x ∈ acc ∨ x ∈ l := by
  induction l generalizing acc with
  | nil => exact Or.inl h
  | cons e es ih =>
    rcases ih _ h with h | h
    · rcases (KNN.mem_upsert acc e x).mp h with rfl | ⟨hm, _⟩
      · exact Or.inr List.mem_cons_self
      · exact Or.inl hm
    · exact Or.inr (List.mem_cons_of_mem _ h)

theorem KNN.foldl_upsert_has_key (hist acc : List KElem) (m : KElem)
    (h : m ∈ hist ∨ ∃ q ∈ acc, q.key = m.key) : ∃ p ∈ hist.foldl KNN.upsert acc, p.key = m.key := by
  induction hist generalizing acc with
  | nil =>
    rcases h with h | h
    · cases h
    · exact h
  | cons e es ih =>
    apply ih (KNN.upsert acc e)
    rcases h with h | ⟨q, hq, hk⟩
    · rcases List.mem_cons.mp h with rfl | h
      · exact Or.inr ⟨m, KNN.self_mem_upsert acc m, rfl⟩
      · exact Or.inl h
    · right
      by_cases hqe : q.key = e.key
      · exact ⟨e, KNN.self_mem_upsert acc e, hqe ▸ hk⟩
      · exact ⟨q, (KNN.mem_upsert acc e q).mpr (Or.inr ⟨hq, hqe⟩), hk⟩

/-- `s` is the container after a sequence of allowed pushes and `L` what was pushed, upserted (one element per key, the
last one pushed): `s` consists of the `min k |L|` elements of `L` nearest to `t`, sorted by distance. -/
structure KNN.Inv (t : Id) (k : Nat) (L s : List KElem) : Prop where
  len : s.length = min k L.length
  sorted : KNN.SortedD t s
  nodupS : KNN.NodupK s
  nodupL : KNN.NodupK L
  sub : ∀ m ∈ s, m ∈ L
  far : ∀ p ∈ L, p ∉ s → ∀ m ∈ s, m.dist t ≤ p.dist t

theorem KNN.Inv.init (t : Id) (k : Nat) : KNN.Inv t k [] [] := by
  refine ⟨by simp, ?_, ?_, ?_, by simp, by simp⟩ <;> simp [KNN.SortedD, KNN.NodupK]

theorem KNN.Inv.full_of_missing {t : Id} {k : Nat} {L s : List KElem} (h : KNN.Inv t k L s)
    (p : KElem) (hp : p ∈ L) (hps : p ∉ s) : s.length = k := by
  apply Classical.byContradiction
  intro hne
  have hl : L.length ≤ s.length := by have := h.len; omega
  exact hps (subset_of_nodup_of_length_le h.nodupS.nodup h.sub hl p hp)

theorem Nat.min_succ_min (k L : Nat) : min k (min k L + 1) = min k (L + 1) := by
  rcases Nat.le_total k L with h | h
  · rw [Nat.min_eq_left h, Nat.min_eq_left (Nat.le_succ k), Nat.min_eq_left (Nat.le_succ_of_le h)]
  · rw [Nat.min_eq_right h]

theorem KNN.Inv.step {t : Id} {k : Nat} {L s s' : List KElem} {e : KElem}
    (h : KNN.Inv t k L s) (hp : KNN.pushAllowed t k s e s' = true) :
    KNN.Inv t k (KNN.upsert L e) s' := by
  obtain ⟨hsorted, hnodup, hsub, hlen, hcl⟩ := (KNN.pushAllowed_iff t k s e s').mp hp
  refine ⟨?_, hsorted, hnodup, KNN.nodupK_upsert L e h.nodupL, fun m hm => ?_, fun p hp hps' m hm => ?_⟩
  · rw [hlen]
    by_cases hS : ∃ x ∈ s, x.key = e.key
    · have hL : ∃ x ∈ L, x.key = e.key := hS.imp fun x hx => ⟨h.sub x hx.1, hx.2⟩
      rw [KNN.length_upsert_of_mem s e hS, KNN.length_upsert_of_mem L e hL, h.len, ← Nat.min_assoc, Nat.min_self]
    · rw [KNN.length_upsert_of_not_mem s e hS]
      by_cases hL : ∃ x ∈ L, x.key = e.key
      · -- the key was pushed before and is no longer held: the container is full
        obtain ⟨p, hp, hk⟩ := hL
        have hfull := h.full_of_missing p hp (fun hps => hS ⟨p, hps, hk⟩)
        rw [KNN.length_upsert_of_mem L e ⟨p, hp, hk⟩, ← h.len, hfull, Nat.min_eq_left (Nat.le_succ k)]
      · rw [KNN.length_upsert_of_not_mem L e hL, h.len, Nat.min_succ_min]
  · rcases (KNN.mem_upsert s e m).mp (hsub m hm) with rfl | ⟨hms, hk⟩
    · exact KNN.self_mem_upsert L m
    · exact (KNN.mem_upsert L e m).mpr (Or.inr ⟨h.sub m hms, hk⟩)
  · by_cases hpc : p ∈ KNN.upsert s e
    · exact (hcl p hpc).resolve_left hps' m hm
    · -- `p` was left out before: the container was full and held nothing farther than `p`
      rcases (KNN.mem_upsert L e p).mp hp with rfl | ⟨hpL, hpk⟩
      · exact absurd (KNN.self_mem_upsert s p) hpc
      · have hps : p ∉ s := fun hps => hpc ((KNN.mem_upsert s e p).mpr (Or.inr ⟨hps, hpk⟩))
        have hfar := h.far p hpL hps
        have hfull := h.full_of_missing p hpL hps
        rcases (KNN.mem_upsert s e m).mp (hsub m hm) with rfl | ⟨hms, _⟩
        · -- the pushed element itself was kept
          by_cases hS : ∃ x ∈ s, x.key = m.key
          · obtain ⟨x, hx, hk⟩ := hS
            rw [← KElem.dist_eq_of_key t x m hk]
            exact hfar x hx
          · -- `upsert s m` has `k + 1` elements, so one of them, other than `m`, was dropped
            obtain ⟨c, hc, hcs⟩ := exists_mem_not_mem_of_length_lt (B := s')
              (KNN.nodupK_upsert s m h.nodupS).nodup
              (by rw [hlen, KNN.length_upsert_of_not_mem s m hS, hfull, Nat.min_eq_left (Nat.le_succ k)]
                  exact Nat.lt_succ_self k)
            rcases (KNN.mem_upsert s m c).mp hc with rfl | ⟨hcs', _⟩
            · exact absurd hm hcs
            · exact Nat.le_trans ((hcl c hc).resolve_left hcs m hm) (hfar c hcs')
        · exact hfar m hms

theorem KNN.insertSorted_spec (t : Id) (e : KElem) (s : List KElem) (hs : KNN.SortedD t s) (hn : KNN.NodupK s) :
    KNN.SortedD t (KNN.insertSorted t s e) ∧
      (KNN.insertSorted t s e).Perm (e :: s.filter (fun y => !y.sameKey e)) := by
  unfold KNN.SortedD KNN.NodupK at *
  fun_induction KNN.insertSorted t s e with
  | case1 e => exact ⟨List.pairwise_singleton _ _, .refl _⟩
  | case2 x xs e hk =>
    -- `x` has the key of `e`: `e` takes its place, and no other element has that key
    have hk' := (KElem.sameKey_iff x e).mp hk
    rw [List.filter_cons_of_neg (by simp [hk]), List.filter_eq_self.mpr fun y hy => by
      rw [Bool.not_eq_true', KElem.sameKey_false_iff]; exact hk' ▸ ((List.pairwise_cons.mp hn).1 y hy).symm]
    exact ⟨List.pairwise_cons.mpr (KElem.dist_eq_of_key t x e hk' ▸ List.pairwise_cons.mp hs), .refl _⟩
  | case3 x xs e hk hc =>
    -- `e` goes before `x`; a later element with the key of `e` is dropped
    simp only [Bool.or_eq_true, decide_eq_true_eq, Bool.and_eq_true, beq_iff_eq] at hc
    have hex : e.dist t ≤ x.dist t := hc.elim Nat.le_of_lt fun h => Nat.le_of_eq h.1
    refine ⟨List.pairwise_cons.mpr ⟨fun y hy => ?_, hs.sublist List.filter_sublist⟩, .refl _⟩
    rcases List.mem_cons.mp (List.mem_filter.mp hy).1 with rfl | hy
    · exact hex
    · exact Nat.le_trans hex ((List.pairwise_cons.mp hs).1 y hy)
  | case4 x xs e hk hc ih =>
    -- `e` goes somewhere after `x`
    simp only [Bool.or_eq_true, decide_eq_true_eq, not_or] at hc
    obtain ⟨hsx, hs'⟩ := List.pairwise_cons.mp hs
    obtain ⟨ih1, ih2⟩ := ih hs' (List.pairwise_cons.mp hn).2
    rw [List.filter_cons_of_pos (by simp [hk])]
    refine ⟨List.pairwise_cons.mpr ⟨fun y hy => ?_, ih1⟩, (ih2.cons x).trans (.swap e x _)⟩
    rcases List.mem_cons.mp (ih2.mem_iff.mp hy) with rfl | hy
    · exact Nat.le_of_not_lt hc.1
    · exact hsx y (List.mem_filter.mp hy).1

theorem KNN.push_allowed (t : Id) (k : Nat) (s : List KElem) (e : KElem)
    (hs : KNN.SortedD t s) (hn : KNN.NodupK s) :
    KNN.pushAllowed t k s e (KNN.push t k s e) = true := by
  rw [KNN.pushAllowed_iff, KNN.push]
  obtain ⟨hsi, hperm⟩ := KNN.insertSorted_spec t e s hs hn
  have hmf : ∀ m, m ∈ s.filter (fun y => !y.sameKey e) ↔ m ∈ s ∧ m.key ≠ e.key := fun m => by
    rw [List.mem_filter, Bool.not_eq_true', KElem.sameKey_false_iff]
  have hni : KNN.NodupK (KNN.insertSorted t s e) :=
    (hperm.pairwise_iff fun h => h.symm).mpr
      (List.pairwise_cons.mpr ⟨fun y hy => ((hmf y).mp hy).2.symm, hn.sublist List.filter_sublist⟩)
  have hmem : ∀ m, m ∈ KNN.insertSorted t s e ↔ m ∈ KNN.upsert s e := fun m => by
    rw [hperm.mem_iff, List.mem_cons, hmf, KNN.mem_upsert]
  have hlen : (KNN.insertSorted t s e).length = (KNN.upsert s e).length :=
    Nat.le_antisymm (hni.nodup.length_le_of_subset fun m => (hmem m).mp)
      ((KNN.nodupK_upsert s e hn).nodup.length_le_of_subset fun m => (hmem m).mpr)
  refine ⟨hsi.sublist (List.take_sublist k _), hni.sublist (List.take_sublist k _),
    fun m hm => (hmem m).mp (List.mem_of_mem_take hm), by rw [List.length_take, hlen], fun c hc => ?_⟩
  have hci := (hmem c).mpr hc
  rw [← List.take_append_drop k (KNN.insertSorted t s e)] at hci
  exact (List.mem_append.mp hci).imp_right fun h m hm => hsi.rel_of_mem_take_of_mem_drop hm h

theorem KNN.le_farthest (t : Id) (l : List KElem) (far : KElem) (hs : KNN.SortedD t l)
    (hf : KNN.farthest l = some far) : ∀ m ∈ l, m.dist t ≤ far.dist t := by
  unfold KNN.farthest at hf
  obtain ⟨ys, rfl⟩ := List.getLast?_eq_some_iff.mp hf
  intro m hm
  unfold KNN.SortedD at hs
  have hp := List.pairwise_append.mp hs
  rcases List.mem_append.mp hm with hm | hm
  · exact hp.2.2 m hm far (by simp)
  · simp only [List.mem_singleton] at hm
    subst hm; exact Nat.le_refl _

/-- Histories of pushes, each step any result the container may produce. -/
inductive KNN.Reach (t : Id) (k : Nat) : List KElem → List KElem → Prop
  | init : KNN.Reach t k [] []
  | push {hist s} (e : KElem) (s' : List KElem) :
      KNN.Reach t k hist s → KNN.pushAllowed t k s e s' = true → KNN.Reach t k (hist ++ [e]) s'

/-- The distinct keys pushed so far, each with the data of its latest push. -/
def KNN.latest (hist : List KElem) : List KElem := hist.foldl KNN.upsert []

theorem KNN.Reach.inv {t : Id} {k : Nat} {hist s : List KElem} (h : KNN.Reach t k hist s) :
    KNN.Inv t k (KNN.latest hist) s := by
  induction h with
  | init => exact KNN.Inv.init t k
  | @push hist s e s' _ hp ih =>
    rw [KNN.latest, List.foldl_append]
    exact ih.step hp

theorem KNN.Reach.pushes_model {t : Id} {k : Nat} {hist s : List KElem} (l : List KElem)
    (hr : KNN.Reach t k hist s) : KNN.Reach t k (hist ++ l) (l.foldl (KNN.push t k) s) := by
  induction l generalizing hist s with
  | nil => simpa using hr
  | cons e l ih =>
    have hinv := hr.inv
    simpa using ih (hr.push e _ (KNN.push_allowed t k s e hinv.sorted hinv.nodupS))

theorem KNN.mem_latest_imp (hist : List KElem) (m : KElem) (h : m ∈ KNN.latest hist) : m ∈ hist :=
  (KNN.mem_foldl_upsert hist [] m h).resolve_left (List.not_mem_nil)

theorem KNN.latest_has_key (hist : List KElem) (m : KElem) (h : m ∈ hist) :
    ∃ p ∈ KNN.latest hist, p.key = m.key :=
  KNN.foldl_upsert_has_key hist [] m (Or.inl h)

end Dht
