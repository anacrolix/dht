/-
C01 — no inbound datagram can crash, wedge or silence the node (server model).

The model makes every Go `panic` on the inbound path an explicit `none`
outcome (table code) and every unguarded dereference a case of the handler;
the theorems say that no reachable state and no datagram reaches one, that
the state stays well-formed, and that a fresh unblocked address is still
answered afterwards.
-/
import DhtVerif.Model.Server
import DhtVerif.Props.C05
import DhtVerif.Lemmas.C01
namespace Dht

theorem C01.inv_init (c : SrvCfg) : Srv.Inv c {} := by
  exact C05.inv_init c.tbl

/-- No datagram crashes the node: from every well-formed state, for every
source, size, decode result and environment answer there is a resolution of the
map-iteration choice under which the step is defined … -/
theorem C01.never_crashes (c : SrvCfg) (hroot : c.tbl.root.length = 20) (mk : TokenFn) (s : Srv) (src : NAddr)
    (size : Nat) (d : Decoded) (env : Env) (hinv : Srv.Inv c s) (hd : d.wf) :
    ∃ ch, (serveDatagram c mk s src size d { env with choice := ch }).isSome = true := by
  rcases serveDatagram_cases c mk s src size d with h | ⟨m, rfl, _, _, h⟩
  · exact ⟨none, by rw [h]; rfl⟩
  · obtain ⟨ch, hch⟩ := C05.no_panic c.tbl hroot s.ts (tblEvOf src m env.choice) hinv (tblEvOf_wf src m _ hd)
    rw [tblEvOf_withChoice] at hch
    exact ⟨ch, by rw [h]; exact processMsg_isSome c mk s src m _ hch⟩

/-- … and whenever a step is defined, the state it leads to is well-formed
again, so the argument repeats for every finite sequence of datagrams. -/
theorem C01.inv_step (c : SrvCfg) (hroot : c.tbl.root.length = 20) (mk : TokenFn) (s s' : Srv) (src : NAddr)
    (size : Nat) (d : Decoded) (env : Env) (outs : List Out) (effs : List Effect)
    (hinv : Srv.Inv c s) (hd : d.wf)
    (h : serveDatagram c mk s src size d env = some (s', outs, effs)) : Srv.Inv c s' := by
  rcases serveDatagram_cases c mk s src size d with h1 | ⟨m, rfl, _, _, h1⟩ <;> rw [h1] at h
  · cases h; exact hinv
  · rcases (processMsg_frame h).2 with h2 | ⟨out, h2⟩
    · unfold Srv.Inv; rw [h2]; exact hinv
    · exact C05.inv_step c.tbl hroot s.ts s'.ts _ out hinv (tblEvOf_wf src m _ hd) h2

/-- No datagram closes the server or touches its pending transactions other than by delivering to one. -/
theorem C01.stays_open (c : SrvCfg) (mk : TokenFn) (s s' : Srv) (src : NAddr)
    (size : Nat) (d : Decoded) (env : Env) (outs : List Out) (effs : List Effect)
    (h : serveDatagram c mk s src size d env = some (s', outs, effs)) : s'.closed = s.closed := by
  rcases serveDatagram_cases c mk s src size d with h1 | ⟨m, _, _, _, h1⟩ <;> rw [h1] at h
  · cases h; rfl
  · exact (processMsg_frame h).1

/-- The node is never silenced: in every well-formed open state, a well-formed
ping from any unblocked address with a non-zero port is answered with exactly
one response to that address (node not passive, hook not vetoing). -/
theorem C01.still_serves (c : SrvCfg) (hroot : c.tbl.root.length = 20) (mk : TokenFn) (s : Srv) (src : NAddr)
    (t : List UInt8) (id : Id) (hid : id.length = 20) (size : Nat) (env : Env)
    (hinv : Srv.Inv c s) (hopen : s.closed = false) (hsize : size < 65536) (hport : (src.port == 0) = false)
    (hblk : c.blocked src.ip = false) (hpass : c.passive = false) (hhook : c.hasHook = false ∨ env.hookPropagate = true) :
    ∃ ch, written c mk s src size (.msg { y := str "q", q := str "ping", t := t, a := some { id := id } })
        { env with choice := ch } = some [mkReply c src t {}] := by
  -- the step is defined for some choice (`never_crashes`) and leaves the server open (`stays_open`);
  -- what it returns is then the ping branch of `dispatch`, and the write gate lets the reply through
  have hwf : (Decoded.msg { y := str "q", q := str "ping", t := t, a := some { id := id } }).wf :=
    ⟨fun a ha => by cases ha; exact hid, nofun⟩
  obtain ⟨ch, hch⟩ := C01.never_crashes c hroot mk s src size _ env hinv hwf
  obtain ⟨⟨s', outs, effs⟩, h⟩ := Option.isSome_iff_exists.mp hch
  have hcl := C01.stays_open _ _ _ _ _ _ _ _ _ _ h
  refine ⟨ch, ?_⟩
  rw [written, h]
  rw [serveDatagram_msg hsize hport hopen hblk] at h
  obtain ⟨tbl', _, ho, _⟩ := processMsg_active (env := { env with choice := ch }) rfl hpass hhook hopen h
  rw [dispatch_ping rfl] at ho
  simp [ho, writeGate, hcl, hopen, hblk, mkReply]

/-- Hence every state reached by a finite sequence of datagrams (for which the
steps are defined) is well-formed and as open as the start state. -/
theorem C01.inv_run (c : SrvCfg) (hroot : c.tbl.root.length = 20) (mk : TokenFn)
    (evs : List (NAddr × Nat × Decoded × Env)) (s0 s : Srv) (hinv : Srv.Inv c s0)
    (hwf : ∀ ev ∈ evs, ev.2.2.1.wf)
    (hrun : evs.foldlM (fun (st : Srv) (ev : NAddr × Nat × Decoded × Env) =>
      (serveDatagram c mk st ev.1 ev.2.1 ev.2.2.1 ev.2.2.2).map (·.1)) s0 = some s) :
    Srv.Inv c s ∧ s.closed = s0.closed := by
  refine foldlM_induction (P := fun s => Srv.Inv c s ∧ s.closed = s0.closed) hrun ⟨hinv, rfl⟩ ?_
  intro ev hev s1 s2 ⟨h1, h2⟩ hstep
  obtain ⟨⟨s2', outs, effs⟩, hs, rfl⟩ := Option.map_eq_some_iff.mp hstep
  exact ⟨C01.inv_step c hroot mk s1 s2' ev.1 ev.2.1 ev.2.2.1 ev.2.2.2 outs effs h1 (hwf ev hev) hs,
    (C01.stays_open c mk s1 s2' ev.1 ev.2.1 ev.2.2.1 ev.2.2.2 outs effs hs).trans h2⟩

/-- A closed server, and a blocked source, get nothing written and change nothing. -/
theorem C01.closed_or_blocked_silent (c : SrvCfg) (mk : TokenFn) (s : Srv) (src : NAddr)
    (size : Nat) (d : Decoded) (env : Env) (h : s.closed = true ∨ c.blocked src.ip = true) :
    written c mk s src size d env = some [] := by
  unfold written
  rcases serveDatagram_cases c mk s src size d with h1 | ⟨_, _, hc, hb, _⟩
  · rw [h1]; rfl
  · rw [hc, hb] at h; simp at h

/-! ### Non-vacuity -/

namespace C01Ex
def cfg : SrvCfg := { tbl := { root := Id.zero 20 } }
def tok : TokenFn := fun ip n => ip ++ [n.toUInt8]
def src : NAddr := ⟨[10, 0, 0, 1], 6881⟩
def ping : QMsg := { y := str "q", q := str "ping", t := [1], a := some { id := List.replicate 20 1 } }
end C01Ex

open C01Ex in
/-- The hypotheses of `still_serves` are met by the fresh server and a concrete
ping, which is answered and enters the routing table. -/
example : Srv.Inv cfg {} ∧ cfg.tbl.root.length = 20 ∧ (Decoded.msg ping).wf ∧
    written cfg tok {} src 100 (.msg ping) {} = some [mkReply cfg src [1] {}] ∧
    (serveDatagram cfg tok {} src 100 (.msg ping) {}).map (fun r => (r.1.ts.table, r.1.closed)) =
      some ([{ id := List.replicate 20 1, addr := src, lastQuery := some 0 }], false) := by
  refine ⟨C01.inv_init cfg, by decide, ⟨?_, ?_⟩, by decide +kernel, by decide +kernel⟩
  · intro a ha; cases ha; decide
  · intro i hi; cases hi

open C01Ex in
/-- Oversized datagrams, port 0 and undecodable input are dropped without effect;
a malformed query (no args dict) is answered with an error, not a crash. -/
example : written cfg tok {} src 65536 (.msg ping) {} = some [] ∧
    written cfg tok {} ⟨[10, 0, 0, 1], 0⟩ 100 (.msg ping) {} = some [] ∧
    written cfg tok {} src 100 .undecodable {} = some [] ∧
    written cfg tok {} src 100 (.msg { y := str "q", q := str "get_peers", t := [9] }) {} =
      some [mkError src [9] Gen.errorCodeProtocolError] := by
  refine ⟨?_, ?_, ?_, ?_⟩ <;> decide +kernel

/-- T1: `processPacket` takes the server lock with a deferred unlock before
dispatching (so every return path, including a recovered error, releases it),
checks `closed`, and dispatches queries to `handleQuery`. -/
theorem C01.lock_discipline :
    idxOf' Gen.evProcessPacket "s.mu.Lock" + 2 = idxOf' Gen.evProcessPacket "s.mu.Unlock" ∧
    Gen.evProcessPacket.getD (idxOf' Gen.evProcessPacket "s.mu.Lock" + 1) "" = "defer" ∧
    idxOf' Gen.evProcessPacket "s.mu.Lock" < idxOf' Gen.evProcessPacket "s.handleQuery" ∧
    idxOf' Gen.evProcessPacket "s.handleQuery" < Gen.evProcessPacket.length ∧
    idxOf' Gen.evProcessPacket "bencode.Unmarshal" < idxOf' Gen.evProcessPacket "s.mu.Lock" := by
  decide +kernel

end Dht
