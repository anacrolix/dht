/-
C13 (companion module, audited with Props/C13.lean) — the version rule survives a FAILING store.

`ServerConfig.Store` is a public extension point: `Get` and `Put` of the `bep44.Store` behind
`bep44.Wrapper` can fail with ordinary Go errors. Props/C13.lean is about Model/Bep44.lean, whose
store never fails; this module is about Model/Bep44Fault.lean: the same store contents, the same
`Check` / `CheckIncoming`, plus a fault oracle `f : Fault` per `Wrapper.Put` (`f.getFails`: the
`Store.Get` of this put returns an error other than `ErrItemNotFound`; `f.putFails`: its
`Store.Put` returns an error). `wrapperPutF` follows /repo/bep44/store.go `Wrapper.Put` branch by
branch, `handlePutF` adds the tail of `case "put"` of /repo/server.go `handleQuery` (which datagrams
are sent). All theorems hold for every fault pattern, every item (valid or not), every store and
every clock reading; those that do not mention `P.casSpec` hold under BOTH CAS rules.

Also C08 ("exactly one datagram per query") for the put handler over a failing store:
`C13.faulty_put_one_answer`.
-/
import DhtVerif.Lemmas.C13Fault
import DhtVerif.Props.C13
namespace Dht
open B44

/-- The code the handler answers an ordinary store error with is `krpc.ErrorMethodUnknown`'s 204
in the source tree. -/
theorem C13.store_error_code_from_source :
    Gen.errorCodeMethodUnknown = 204 ∧ answersOf .storeErr = [.error 204] := by decide

/-- With no fault, `wrapperPutF` / `handlePutF` ARE `Wrapper.put` / `handlePut` of Model/Bep44
(the model of Props/C13 and Props/C12): same store, same error code, one answer. -/
theorem C13.no_fault_is_wrapper_put (P : Params) (now : Nat) (s : Store) (i : Item)
    (bv k salt sig : Bytes) (cas : Int) (seq : Option Int) :
    wrapperPutF P Fault.none now s i = (PutOutcome.ofErr (Wrapper.put P now s i).2, (Wrapper.put P now s i).1) ∧
    handlePutF P Fault.none now s bv k salt sig cas seq =
      (answersOf (PutOutcome.ofErr (handlePut P now s bv k salt sig cas seq).2), (handlePut P now s bv k salt sig cas seq).1) := by
  have h1 : ∀ i, wrapperPutF P Fault.none now s i =
      (PutOutcome.ofErr (Wrapper.put P now s i).2, (Wrapper.put P now s i).1) := by
    intro i
    rcases wrapperPutF_cases P Fault.none now s i with ⟨e, hc, h⟩ | ⟨_, hg, _⟩ | ⟨st, e, hc, _, hs, hi, h⟩ |
        ⟨_, _, _, hp, _⟩ | ⟨hc, _, had, _, h⟩
    · rw [h, Wrapper.put_of_check now hc]; rfl
    · cases hg
    · rw [h, Wrapper.put_of_incoming now hc hs hi]; rfl
    · cases hp
    · rw [h, Wrapper.put_of_admits now hc had]; rfl
  refine ⟨h1 i, ?_⟩
  cases seq with
  | none => rfl
  | some q => exact congrArg (fun r => (answersOf r.1, r.2)) (h1 ⟨bv, keyOfWire k, salt, sig, cas, q⟩)

/-- An operation whose `Get` or `Put` fails leaves the store exactly as it was, and is not
answered ok. (If the flagged call is never reached — `Check` or `CheckIncoming` rejected the item
first — the put is refused with that `krpc.Error`; nothing is written either.) -/
theorem C13.fault_writes_nothing (P : Params) (f : Fault) (now : Nat) (s : Store) (i : Item)
    (hf : f.getFails = true ∨ f.putFails = true) :
    (wrapperPutF P f now s i).2 = s ∧ (wrapperPutF P f now s i).1 ≠ .ok := by
  rcases wrapperPutF_store P f now s i with ⟨h1, h2⟩ | ⟨hg, hp, _, _⟩
  · exact ⟨h2, h1⟩
  · rcases hf with h | h
    · rw [hg] at h; cases h
    · rw [hp] at h; cases h

/-- Exactly when the ordinary store error comes back: the item passed `Check` and either the
`Get` failed, or the `Get` succeeded, `CheckIncoming` let the put through (or nothing was stored)
and the `Put` failed. In particular a failing `Get` is answered BEFORE `CheckIncoming` is
consulted. -/
theorem C13.store_error_iff (P : Params) (f : Fault) (now : Nat) (s : Store) (i : Item) :
    (wrapperPutF P f now s i).1 = .storeErr ↔
      check P i = none ∧ (f.getFails = true ∨ (f.putFails = true ∧
        (s (target P i) = none ∨ ∃ st, s (target P i) = some st ∧ checkIncomingWith P.casSpec st.item i = none))) := by
  rcases wrapperPutF_cases P f now s i with ⟨e, hc, h⟩ | ⟨hc, hg, h⟩ | ⟨st, e, hc, hg, hs, hi, h⟩ |
      ⟨hc, hg, had, hp, h⟩ | ⟨hc, hg, had, hp, h⟩
  · rw [h]; simp [hc]
  · rw [h]; simp [hc, hg]
  · rw [h]; simp [hc, hg, hs, hi]
  · rw [h]; simp only [true_iff]
    refine ⟨hc, Or.inr ⟨hp, ?_⟩⟩
    cases hs : s (target P i) with
    | none => exact Or.inl rfl
    | some st => exact Or.inr ⟨st, rfl, had st hs⟩
  · rw [h]; simp [hg, hp]

/-- Whatever the faults: the store moves only when the put is answered ok, and then it moves
exactly as the never-failing `Wrapper.put` moves it (which accepts that put too) — so every
single-step theorem of Props/C13 about accepted puts carries over. -/
theorem C13.faulty_put_refines (P : Params) (f : Fault) (now : Nat) (s : Store) (i : Item) :
    ((wrapperPutF P f now s i).1 ≠ .ok ∧ (wrapperPutF P f now s i).2 = s) ∨
    (f.getFails = false ∧ f.putFails = false ∧ (wrapperPutF P f now s i).1 = .ok ∧
      Wrapper.put P now s i = ((wrapperPutF P f now s i).2, none)) :=
  wrapperPutF_store P f now s i

/-- One put, any store (reachable or not), any fault pattern, any target `t` holding `a`: after
the put `t` still holds an entry `b`, `b`'s sequence number is not lower, an equal sequence number
means the same value, and — under the rule of the property — if the kept item moved (other
sequence number or other value) through a put carrying a CAS value (non-zero: `cas,omitempty`),
that value is the sequence number that was stored, the put was answered ok and `b` is its item.
Moreover the entry is `SeqStep`-related as in `C13.seq_monotone_step`. -/
theorem C13.faulty_put_step (P : Params) (exp : Nat) (f : Fault) (now : Nat) (s : Store) (i : Item) (t : Target) (a : Entry)
    (ha : s t = some a) :
    (∃ b, (wrapperPutF P f now s i).2 t = some b ∧ a.item.seq ≤ b.item.seq ∧
      (a.item.seq = b.item.seq → a.item.bv = b.item.bv) ∧
      (P.casSpec = true → (b.item.seq ≠ a.item.seq ∨ b.item.bv ≠ a.item.bv) → i.cas ≠ 0 →
        i.cas = a.item.seq ∧ b.item = i ∧ (wrapperPutF P f now s i).1 = .ok)) ∧
    SeqStep exp now s (wrapperPutF P f now s i).2 t := by
  obtain ⟨b, hb, hle, heq⟩ := wrapperPutF_forward P f now s i t a ha
  refine ⟨⟨b, hb, hle, heq, fun hP hch h0 => ?_⟩, ?_⟩
  · obtain ⟨h1, _, h3, h4⟩ := wrapperPutF_cas P hP f now s i t a b ha hb hch h0
    exact ⟨h1, h3, h4⟩
  · intro a' ha'
    rw [ha] at ha'; cases ha'
    rw [hb]; exact hle

/-- EVERY history of puts (any items, any targets, valid or not, any clock readings) against a
store with ARBITRARY fault flags per put, from any store `s`, for every target `t` stored in `s`:
 * between any two points of the history (`pre`, `pre ++ mid`) the target stays stored, its
   sequence number does not decrease, and if the number is the same the value is the same;
 * at every single put `e` of the history (after the prefix `pre`), under the rule of the property
   (`P.casSpec = true`): if the kept item moved and `e` carried a CAS value, then that value is the
   sequence number stored just before `e`, and what is kept afterwards is `e`'s item.
The first part holds under both CAS rules. -/
theorem C13.faulty_store_monotone (P : Params) (s : Store) (evs : List PutEv) (t : Target) (a : Entry)
    (ha : s t = some a) :
    (∀ pre mid post, evs = pre ++ mid ++ post →
      ∃ c d, runF P s pre t = some c ∧ runF P s (pre ++ mid) t = some d ∧
        a.item.seq ≤ c.item.seq ∧ c.item.seq ≤ d.item.seq ∧ (c.item.seq = d.item.seq → c.item.bv = d.item.bv)) ∧
    (∀ pre e post, evs = pre ++ e :: post →
      ∃ c d, runF P s pre t = some c ∧ runF P s (pre ++ [e]) t = some d ∧
        (P.casSpec = true → (d.item.seq ≠ c.item.seq ∨ d.item.bv ≠ c.item.bv) → e.item.cas ≠ 0 →
          e.item.cas = c.item.seq ∧ d.item = e.item)) := by
  constructor
  · intro pre mid post _
    obtain ⟨c, hc, hle, _⟩ := runF_forward P pre s t a ha
    obtain ⟨d, hd, hle', heq'⟩ := runF_forward P mid (runF P s pre) t c hc
    exact ⟨c, d, hc, by rw [runF_append]; exact hd, hle, hle', heq'⟩
  · intro pre e post _
    obtain ⟨c, hc, _, _⟩ := runF_forward P pre s t a ha
    obtain ⟨d, hd, _, _⟩ := wrapperPutF_forward P e.f e.now (runF P s pre) e.item t c hc
    refine ⟨c, d, hc, by rw [runF_snoc]; exact hd, fun hP hch h0 => ?_⟩
    obtain ⟨h1, _, h3, _⟩ := wrapperPutF_cas P hP e.f e.now (runF P s pre) e.item t c d hc hd hch h0
    exact ⟨h1, h3⟩

/-- The reject codes of `C13.reject_codes` / `C13.cas_rule` are unaffected by a failing `Put`
(the `Put` is never reached): a put (passing `Check`, `Get` not failing) with a lower sequence
number, or the same number and another value, is answered 302; under the rule of the property a
CAS value other than the stored sequence number is answered 301. Store unchanged. -/
theorem C13.faulty_reject_codes (P : Params) (f : Fault) (hg : f.getFails = false) (now : Nat) (s : Store) (i : Item)
    (st : Entry) (hc : check P i = none) (hs : s (target P i) = some st) :
    ((i.seq < st.item.seq ∨ (i.seq = st.item.seq ∧ i.bv ≠ st.item.bv)) →
      wrapperPutF P f now s i = (.krpcErr Gen.bep44ErrSequenceNumberLessThanCurrent, s)) ∧
    (P.casSpec = true → st.item.seq < i.seq → i.cas ≠ 0 ∧ i.cas ≠ st.item.seq →
      wrapperPutF P f now s i = (.krpcErr Gen.bep44ErrCasHashMismatched, s)) := by
  constructor
  · intro hlow
    exact wrapperPutF_of_incoming now hc hg hs (checkIncomingWith_lower hlow)
  · intro hP hhi hcas
    exact wrapperPutF_of_incoming now hc hg hs (hP ▸ (checkIncomingSpec_higher hhi).1 hcas)

/-- The put handler (after the token test) sends exactly ONE datagram for every fault pattern,
every item and every store — a response or an error, never two, never none: a response iff
`Wrapper.Put` returned nil, the `krpc.Error` itself when the store returned one, error 204 for
any other error; a missing `seq` is answered 203. -/
theorem C13.faulty_put_one_answer (P : Params) (f : Fault) (now : Nat) (s : Store) (bv k salt sig : Bytes)
    (cas : Int) (seq : Option Int) :
    (handlePutF P f now s bv k salt sig cas seq).1.length = 1 ∧
    ((handlePutF P f now s bv k salt sig cas seq).1 = [.response] ∨
      ∃ c, (handlePutF P f now s bv k salt sig cas seq).1 = [.error c]) ∧
    (∀ q, seq = some q →
      (handlePutF P f now s bv k salt sig cas seq).1 =
        match (wrapperPutF P f now s ⟨bv, keyOfWire k, salt, sig, cas, q⟩).1 with
        | .ok => [.response]
        | .krpcErr c => [.error c]
        | .storeErr => [.error Gen.errorCodeMethodUnknown]) ∧
    (seq = none → handlePutF P f now s bv k salt sig cas seq = ([.error Gen.errorCodeProtocolError], s)) ∧
    ((handlePutF P f now s bv k salt sig cas seq).1 ≠ [.response] → (handlePutF P f now s bv k salt sig cas seq).2 = s) := by
  cases seq with
  | none =>
    exact ⟨rfl, Or.inr ⟨_, rfl⟩, fun q hq => (by cases hq), fun _ => rfl, fun _ => rfl⟩
  | some q =>
    -- `handlePutF .. (some q)` is `(answersOf r.1, r.2)` for `r` the wrapper's result, by `rfl`
    rcases answersOf_cases (wrapperPutF P f now s ⟨bv, keyOfWire k, salt, sig, cas, q⟩).1 with ⟨ha, _⟩ | ⟨⟨c, ha⟩, hne⟩
    · exact ⟨congrArg List.length ha, Or.inl ha, fun q' hq' => (by cases hq'; rfl), fun h => (by cases h),
        fun h => absurd ha h⟩
    · refine ⟨congrArg List.length ha, Or.inr ⟨c, ha⟩, fun q' hq' => (by cases hq'; rfl), fun h => (by cases h),
        fun _ => ?_⟩
      rcases wrapperPutF_store P f now s ⟨bv, keyOfWire k, salt, sig, cas, q⟩ with ⟨_, h2⟩ | ⟨_, _, h3, _⟩
      · exact h2
      · exact absurd h3 hne

/-- The target `[7]` holds sequence number 5 (value `[5]`), stored at clock 0. -/
def C13.wStore5 : Store := Store.empty.set [7] ⟨C13.wItem 5 5, 0⟩

/-- KEPT COUNTEREXAMPLE (the seeded defect): `Wrapper.Put` treating EVERY error of `Get` like
`ErrItemNotFound` (`wrapperPutFWith true`). The target holds seq 5; a put of seq 3 whose `Get`
fails is stamped and stored without `CheckIncoming`: it is answered ok (one response datagram)
and the store goes 5 → 3, so the statement of `C13.faulty_store_monotone` is FALSE for the
variant. The code (`wrapperPutF`) answers the same put with the store error (204 on the wire) and
keeps seq 5; without the fault both refuse it with 302. Under either CAS rule. -/
theorem C13.swallowed_get_error_breaks_monotonicity (casSpec : Bool) :
    (wrapperPutFWith true (C13.wP casSpec) ⟨true, false⟩ 1 C13.wStore5 (C13.wItem 3 3)).1 = .ok ∧
    (C13.wStore5 [7]).map (·.item.seq) = some 5 ∧
    ((wrapperPutFWith true (C13.wP casSpec) ⟨true, false⟩ 1 C13.wStore5 (C13.wItem 3 3)).2 [7]).map (·.item.seq) = some 3 ∧
    (handlePutFWith true (C13.wP casSpec) ⟨true, false⟩ 1 C13.wStore5 [3] [7] [] [] 0 (some 3)).1 = [.response] ∧
    (wrapperPutF (C13.wP casSpec) ⟨true, false⟩ 1 C13.wStore5 (C13.wItem 3 3)).1 = .storeErr ∧
    ((wrapperPutF (C13.wP casSpec) ⟨true, false⟩ 1 C13.wStore5 (C13.wItem 3 3)).2 [7]).map (·.item.seq) = some 5 ∧
    (handlePutF (C13.wP casSpec) ⟨true, false⟩ 1 C13.wStore5 [3] [7] [] [] 0 (some 3)).1 = [.error 204] ∧
    (wrapperPutFWith true (C13.wP casSpec) Fault.none 1 C13.wStore5 (C13.wItem 3 3)).1 = .krpcErr 302 ∧
    ¬ (∀ (s : Store) (evs : List PutEv) (t : Target) (a : Entry), s t = some a →
        ∃ b, runFWith true (C13.wP casSpec) s evs t = some b ∧ a.item.seq ≤ b.item.seq) := by
  -- all conjuncts but the last are closed computations: evaluate them together
  simp only [← and_assoc]
  refine ⟨by cases casSpec <;> decide +kernel, fun h => ?_⟩
  obtain ⟨b, hb, hle⟩ := h C13.wStore5 [⟨⟨true, false⟩, 1, C13.wItem 3 3⟩] [7] ⟨C13.wItem 5 5, 0⟩ (by decide)
  have h3 : (runFWith true (C13.wP casSpec) C13.wStore5 [⟨⟨true, false⟩, 1, C13.wItem 3 3⟩] [7]).map (·.item.seq) = some 3 := by
    cases casSpec <;> decide +kernel
  rw [hb] at h3
  simp only [Option.map_some, Option.some.injEq] at h3
  have h5 : (C13.wItem 5 5).seq = 5 := rfl
  simp only [] at hle
  omega

/-- A history on which the theorems bite, with all three fault patterns, from the empty store:
seq 3 accepted; seq 5 with a failing Put → store error, still 3; seq 5 again → accepted; seq 4
with a failing Get → store error (NOT 302: the Get fails before CheckIncoming), still 5; seq 4
without fault → 302; seq 7 cas 4 → 301 under the rule of the property; seq 7 cas 5 with a failing
Put → store error, still 5; seq 7 cas 5 → accepted. -/
example :
    let P := C13.wP true
    let it (seq cas : Int) (v : UInt8) : Item := ⟨[v], some [7], [], [], cas, seq⟩
    let h : List PutEv := [⟨⟨false, false⟩, 0, it 3 0 1⟩, ⟨⟨false, true⟩, 1, it 5 0 2⟩, ⟨⟨false, false⟩, 2, it 5 0 2⟩,
      ⟨⟨true, false⟩, 3, it 4 0 3⟩, ⟨⟨false, false⟩, 4, it 4 0 3⟩, ⟨⟨false, false⟩, 5, it 7 4 4⟩,
      ⟨⟨false, true⟩, 6, it 7 5 4⟩, ⟨⟨false, false⟩, 7, it 7 5 4⟩]
    (List.range 9).map (fun n => ((runF P Store.empty (h.take n)) [7]).map (·.item.seq)) =
      [none, some 3, some 3, some 5, some 5, some 5, some 5, some 5, some 7] ∧
    (List.range 8).map (fun n => match h[n]? with
      | some e => some (wrapperPutF P e.f e.now (runF P Store.empty (h.take n)) e.item).1
      | none => none) =
      [some .ok, some .storeErr, some .ok, some .storeErr, some (.krpcErr 302), some (.krpcErr 301),
       some .storeErr, some .ok] := by decide +kernel

/-- The hypotheses of `C13.faulty_store_monotone` are met by a non-trivial history (a stored
target, puts that fail, puts that move the item, a CAS put that replaces it). -/
example : ∃ (evs : List PutEv) (a b : Entry),
    C13.wStore5 [7] = some a ∧ runF (C13.wP true) C13.wStore5 evs [7] = some b ∧ a.item.seq < b.item.seq ∧
    b.item.cas = a.item.seq ∧ (∃ e ∈ evs, e.f.getFails = true) ∧ (∃ e ∈ evs, e.f.putFails = true) :=
  ⟨[⟨⟨true, false⟩, 1, C13.wItem 3 3⟩, ⟨⟨false, true⟩, 2, ⟨[9], some [7], [], [], 5, 6⟩⟩,
    ⟨⟨false, false⟩, 3, ⟨[9], some [7], [], [], 5, 6⟩⟩],
   ⟨C13.wItem 5 5, 0⟩, ⟨⟨[9], some [7], [], [], 5, 6⟩, 3⟩, by decide, by decide, by decide, by decide,
   ⟨_, List.mem_cons_self .., rfl⟩, ⟨_, List.mem_cons_of_mem _ (List.mem_cons_self ..), rfl⟩⟩

/-- Every answer of the handler occurs: response, a `krpc.Error` of the store (302), 204 for an
ordinary error (failing Get, failing Put), 203 for a missing `seq` — one datagram each. -/
example :
    (handlePutF (C13.wP true) Fault.none 1 C13.wStore5 [6] [7] [] [] 0 (some 6)).1 = [.response] ∧
    (handlePutF (C13.wP true) Fault.none 1 C13.wStore5 [3] [7] [] [] 0 (some 3)).1 = [.error 302] ∧
    (handlePutF (C13.wP true) ⟨true, false⟩ 1 C13.wStore5 [6] [7] [] [] 0 (some 6)).1 = [.error 204] ∧
    (handlePutF (C13.wP true) ⟨false, true⟩ 1 C13.wStore5 [6] [7] [] [] 0 (some 6)).1 = [.error 204] ∧
    (handlePutF (C13.wP true) ⟨true, true⟩ 1 C13.wStore5 [6] [7] [] [] 0 none).1 = [.error 203] := by decide +kernel

end Dht
