/- T1 by translation (DESIGN.md 12.3a): bep44 `Item.IsMutable`, `Verify`, `Check`, `Item.Target`, `Put.IsMutable`,
`MakeMutableTarget`, `Put.Target`. -/
import DhtVerif.Lemmas.SourceTrees
import DhtVerif.Props.STCommon
import DhtVerif.Model.SourceTrees2
import DhtVerif.Model.Bep44
namespace Dht
open Gen (DExp SExp)

/-- `Item.IsMutable`: the model's `k : Option Key` is `none` exactly for the all-zero `K` (`keyOfWire`). -/
def imRet (i : B44.Item) : String → Option Bool
  | "s.K != Empty32ByteArray" => some i.k.isSome
  | _ => none

theorem SourceTrees.itemIsMutable (i : B44.Item) :
    DExp.evalWith noCond (imRet i) Gen.treeItemIsMutable = some i.isMutable := by
  simp only [Gen.treeItemIsMutable, DExp.evalWith_ret, imRet, B44.Item.isMutable]

/-- `Verify(k, salt, seq, bv, sig)` of bep44/key.go: `ed25519.Verify` is the parameter `P.verify`. -/
def vfRet (P : B44.Params) (k salt : B44.Bytes) (seq : Int) (bv sig : B44.Bytes) : String → Option Bool
  | "ed25519.Verify(k, bufferToSign(salt, bv, seq), sig)" => some (P.verify k (B44.bufferToSign salt seq bv) sig)
  | _ => none

def ckLetsExpected : List String := ["$1, $2 := bencode.Marshal(i.V)"]

/-- `Check`. The model's item carries `bv`, the successful result of `bencode.Marshal(i.V)` (`err != nil` is
false). `IsMutable` and `Verify` are read from their own sources; `i.K[:]` has a model value only for a
mutable item. -/
def ckCond (P : B44.Params) (i : B44.Item) : String → Option Bool
  | "$2 != nil" => some false
  | "len($1) > 1000" => some (decide (i.bv.length > 1000))
  | "!i.IsMutable()" => (DExp.evalWith noCond (imRet i) Gen.treeItemIsMutable).map (!·)
  | "len(i.Salt) > 64" => some (decide (i.salt.length > 64))
  | "!Verify(i.K[:], i.Salt, i.Seq, $1, i.Sig[:])" =>
    (i.k.bind (fun k => DExp.evalWith noCond (vfRet P k i.salt i.seq i.bv i.sig) Gen.treeBep44Verify)).map (!·)
  | _ => none

def ckRet : String → Option (Option Nat)
  | "nil" => some none
  | "ErrValueFieldTooBig" => some (some Gen.bep44ErrValueFieldTooBig)
  | "ErrSaltFieldTooBig" => some (some Gen.bep44ErrSaltFieldTooBig)
  | "ErrInvalidSignature" => some (some Gen.bep44ErrInvalidSignature)
  | _ => none

/-- `Check` in bep44/item.go computes exactly the model's `B44.check`. -/
theorem SourceTrees.bep44Check (P : B44.Params) (i : B44.Item) :
    Gen.treeBep44CheckLets = ckLetsExpected ∧
    DExp.evalWith (ckCond P i) ckRet Gen.treeBep44Check = some (B44.check P i) := by
  refine ⟨rfl, ?_⟩
  have hV : Gen.bep44MaxV = 1000 := rfl
  have hS : Gen.bep44MaxSalt = 64 := rfl
  unfold ckRet
  simp only [Gen.treeBep44Check, Gen.treeItemIsMutable, Gen.treeBep44Verify, DExp.evalWith_ite, DExp.evalWith_ret,
    ckCond, imRet, vfRet, Option.bind_some, Option.map_some, B44.check, hV, hS]
  cases i.k <;> simp [← apply_ite some]

/-- Negative check: the value limit changed (1000 → 1001). Unknown atom: no value for any item. -/
def treeBep44CheckMutLimit : DExp := DExp.ite "$2 != nil" (DExp.ret "$2") (DExp.ite "len($1) > 1001" (DExp.ret "ErrValueFieldTooBig") (DExp.ite "!i.IsMutable()" (DExp.ret "nil") (DExp.ite "len(i.Salt) > 64" (DExp.ret "ErrSaltFieldTooBig") (DExp.ite "!Verify(i.K[:], i.Salt, i.Seq, $1, i.Sig[:])" (DExp.ret "ErrInvalidSignature") (DExp.ret "nil")))))

example (P : B44.Params) (i : B44.Item) : DExp.evalWith (ckCond P i) ckRet treeBep44CheckMutLimit = none := by
  simp [treeBep44CheckMutLimit, DExp.evalWith_ite, ckCond]

/-- Negative check with known atoms only: the salt test after the signature test. The tree evaluates, but an
item with an over-long salt and a bad signature is answered 206 instead of the model's (and the source's) 207. -/
def treeBep44CheckMutOrder : DExp := DExp.ite "$2 != nil" (DExp.ret "$2") (DExp.ite "len($1) > 1000" (DExp.ret "ErrValueFieldTooBig") (DExp.ite "!i.IsMutable()" (DExp.ret "nil") (DExp.ite "!Verify(i.K[:], i.Salt, i.Seq, $1, i.Sig[:])" (DExp.ret "ErrInvalidSignature") (DExp.ite "len(i.Salt) > 64" (DExp.ret "ErrSaltFieldTooBig") (DExp.ret "nil")))))

theorem SourceTrees.bep44Check_mutOrder_wrong (P : B44.Params) (i : B44.Item) (k : B44.Key) (hk : i.k = some k)
    (hv : ¬ i.bv.length > 1000) (hs : i.salt.length > 64)
    (hsig : P.verify k (B44.bufferToSign i.salt i.seq i.bv) i.sig = false) :
    DExp.evalWith (ckCond P i) ckRet treeBep44CheckMutOrder = some (some 206) ∧ B44.check P i = some 207 := by
  have hV : Gen.bep44MaxV = 1000 := rfl
  have hS : Gen.bep44MaxSalt = 64 := rfl
  unfold ckRet
  simp [treeBep44CheckMutOrder, Gen.treeItemIsMutable, Gen.treeBep44Verify, DExp.evalWith_ite, DExp.evalWith_ret, ckCond,
    imRet, vfRet, B44.check, hV, hS, hk, hv, hs, hsig, Gen.bep44ErrInvalidSignature, Gen.bep44ErrSaltFieldTooBig]

/-- the hypotheses can be met (65 bytes of salt, a verifier that rejects everything) -/
example : ¬ ∀ (P : B44.Params) (i : B44.Item),
    DExp.evalWith (ckCond P i) ckRet treeBep44CheckMutOrder = some (B44.check P i) := by
  intro h
  have h' := h ⟨fun _ => [], fun _ _ _ => false, true⟩ ⟨[], some [1], List.replicate 65 0, [], 0, 0⟩
  have w := SourceTrees.bep44Check_mutOrder_wrong ⟨fun _ => [], fun _ _ _ => false, true⟩
    ⟨[], some [1], List.replicate 65 0, [], 0, 0⟩ [1] rfl (by decide) (by decide) rfl
  rw [w.1, w.2] at h'
  exact absurd h' (by simp)

/-- `Item.Target`: SHA-1 is the parameter `P.H`; `i.K[:]` has a model value only for a mutable item. -/
def itCond (i : B44.Item) : String → Option Bool
  | "i.IsMutable()" => DExp.evalWith noCond (imRet i) Gen.treeItemIsMutable
  | _ => none

def itRet (P : B44.Params) (i : B44.Item) : String → Option B44.Target
  | "sha1.Sum(append(i.K[:], i.Salt...))" => i.k.map (fun k => P.H (k ++ i.salt))
  | "sha1.Sum(bencode.MustMarshal(i.V))" => some (P.H i.bv)
  | _ => none

/-- `Item.Target` in bep44/item.go computes exactly the model's `B44.target`. -/
theorem SourceTrees.itemTarget (P : B44.Params) (i : B44.Item) :
    DExp.evalWith (itCond i) (itRet P i) Gen.treeItemTarget = some (B44.target P i) := by
  simp only [Gen.treeItemTarget, Gen.treeItemIsMutable, DExp.evalWith_ite, DExp.evalWith_ret, itCond, imRet, itRet,
    B44.target]
  cases i.k <;> rfl

/-- Negative check: salt before key in the hashed bytes. Unknown result: no value for a mutable item. -/
example (P : B44.Params) (i : B44.Item) (h : i.k.isSome = true) :
    DExp.evalWith (itCond i) (itRet P i)
      (DExp.ite "i.IsMutable()" (DExp.ret "sha1.Sum(append(i.Salt, i.K[:]...))") (DExp.ret "sha1.Sum(bencode.MustMarshal(i.V))")) = none := by
  simp [Gen.treeItemIsMutable, DExp.evalWith_ite, DExp.evalWith_ret, itCond, imRet, h, itRet]

/-- Negative check with known atoms: the branches exchanged. An immutable item gets no value (there is no
key to hash), a mutable one the hash of its value instead of key and salt. -/
example (P : B44.Params) (i : B44.Item) (k : B44.Key) (h : i.k = some k) :
    DExp.evalWith (itCond i) (itRet P i)
      (DExp.ite "i.IsMutable()" (DExp.ret "sha1.Sum(bencode.MustMarshal(i.V))") (DExp.ret "sha1.Sum(append(i.K[:], i.Salt...))"))
      = some (P.H i.bv) ∧ B44.target P i = P.H (k ++ i.salt) := by
  simp [Gen.treeItemIsMutable, DExp.evalWith_ite, DExp.evalWith_ret, itCond, imRet, h, itRet, B44.target]

/-- `Put.IsMutable` (`K` is a pointer, `nil` for an immutable put): the model of a `Put` is the item
`ToItem` makes of it, `k = none` for `K == nil`. -/
def pmRet (i : B44.Item) : String → Option Bool
  | "s.K != nil" => some i.k.isSome
  | _ => none

/-- `MakeMutableTarget(pubKey, salt)` of bep44/target.go. -/
def mmtRet (P : B44.Params) (pubKey salt : B44.Bytes) : String → Option B44.Target
  | "sha1.Sum(append(pubKey[:], salt...))" => some (P.H (pubKey ++ salt))
  | _ => none

def ptCond (i : B44.Item) : String → Option Bool
  | "i.IsMutable()" => DExp.evalWith noCond (pmRet i) Gen.treePutIsMutable
  | _ => none

/-- `*i.K` has a value only when `K != nil`; `MakeMutableTarget` is read from its own source. -/
def ptRet (P : B44.Params) (i : B44.Item) : String → Option B44.Target
  | "MakeMutableTarget(*i.K, i.Salt)" =>
    i.k.bind (fun k => DExp.evalWith noCond (mmtRet P k i.salt) Gen.treeMakeMutableTarget)
  | "sha1.Sum(bencode.MustMarshal(i.V))" => some (P.H i.bv)
  | _ => none

/-- `Put.Target` in bep44/put.go (through `Put.IsMutable` and `MakeMutableTarget`) computes the model's
`B44.target` of the put's item: a put and the item it becomes are filed under one target. -/
theorem SourceTrees.putTarget (P : B44.Params) (i : B44.Item) :
    DExp.evalWith (ptCond i) (ptRet P i) Gen.treePutTarget = some (B44.target P i) := by
  simp only [Gen.treePutTarget, Gen.treePutIsMutable, Gen.treeMakeMutableTarget, DExp.evalWith_ite, DExp.evalWith_ret,
    ptCond, pmRet, ptRet, mmtRet, B44.target]
  cases i.k <;> rfl

/-- Negative check: `MakeMutableTarget` hashing the salt only: unknown result inside the callee, so the
caller's mutable branch has no value either. -/
example (P : B44.Params) (i : B44.Item) (k : B44.Key) (_h : i.k = some k) :
    DExp.evalWith noCond (mmtRet P k i.salt) (DExp.ret "sha1.Sum(salt)") = none := by
  simp [DExp.evalWith_ret, mmtRet]

/-- Negative check: `Put.Target` testing `!i.IsMutable()`: unknown atom, no value for any put. -/
example (P : B44.Params) (i : B44.Item) :
    DExp.evalWith (ptCond i) (ptRet P i)
      (DExp.ite "!i.IsMutable()" (DExp.ret "MakeMutableTarget(*i.K, i.Salt)") (DExp.ret "sha1.Sum(bencode.MustMarshal(i.V))")) = none := by
  simp [DExp.evalWith_ite, ptCond]


/-- The extractor skipped no statement in the bep44 functions read here (their trees are their whole bodies). -/
theorem SourceTrees.bep44_no_skipped_statements :
    Gen.treeBep44VerifyLets = [] ∧ Gen.treeItemIsMutableLets = [] ∧ Gen.treePutIsMutableLets = [] ∧
    Gen.treeItemTargetLets = [] ∧ Gen.treePutTargetLets = [] ∧ Gen.treeMakeMutableTargetLets = [] := by
  decide

end Dht
