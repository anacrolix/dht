/-
C20, continued — the send budget when reservations are abandoned (`Reservation.CancelAt`).

Model: `Model/RateCancel.lean` (`CBucket` = `Bucket` + `lastEvent`, `Resv`, `CBucket.cancelAt`,
histories `CHist.run` over `adv dt | allow | reserve | use i | cancel i | cancelStale i t | giveBack`).
Units as in `Props/C20.lean`: `U = q·10⁹` units per token, `p` units accrue per ns, `p·t` is the
scaled form of the instant `t` ns; `U·n ≤ burst·U + p·(t − t0)` reads `n ≤ burst + rate·(t − t0)`.

A reservation is *used* (`use i`: its datagram is written, at or after its slot) or *cancelled*
(`cancel i`: `CancelAt(now)`); a cancelled reservation is not a datagram. `allow` grants become
datagrams at once. The clock of a history never steps back and `cancel` presents the limiter with
the current instant (`CEv.timely`); `cancelStale` is the seeded defect.

Two findings about rate.go that shape the statements (both kept below as `decide`d facts):

* `restoreTokens = 1 − limit·(lastEvent − timeToAct)` exceeds one token whenever `lastEvent` lies
  BEFORE the reservation's `timeToAct`. `AllowN(now, -1)` (the give-back of `writeToNode`) sets
  `lastEvent = now`, below every pending reservation; cancelling one of those then credits up to two
  tokens and the budget IS exceeded (`C20.giveback_then_cancel_breaks_bound`). Without give-backs
  the same over-credit can occur after an earlier under-credit (`C20.cancel_can_restore_more`);
  no excess over the budget was found there (random search), but it is not proved.
* Hence the budget theorems carry the hypothesis `CHist.wasteOk`: at every moment the cancellations
  so far have together credited at most the tokens they had reserved (each one gives up one token
  of budget and hands back `credited`; the running total of the differences, `wasteStep`, never
  falls below zero). It is implied by `CHist.runOk` (`C20.waste_ok_of_run_ok`): every cancellation
  that reaches the bucket credits at most its own token, i.e. `lastEvent ≥ timeToAct` at that moment
  (`C20.credit_ok_iff`); a cancellation right after its own reservation always does
  (`C20.immediate_cancel_ok`). What is NOT proved: that `wasteOk` holds for every history without
  give-backs.
-/
import DhtVerif.Model.RateCancel
import DhtVerif.Lemmas.C20Cancel
namespace Dht

/-- `restoreTokens ≤ 1` exactly when `lastEvent` is not before the reservation's `timeToAct`. -/
theorem C20.restore_le_unit_iff (c : CBucket) (r : Resv) :
    c.restore r ≤ (c.b.unit : Int) ↔ r.act ≤ c.lastEvent := by
  unfold CBucket.restore; omega

/-- A cancellation never credits more than the one token it reserved — PROVIDED `lastEvent` is not
before the reservation's `timeToAct` (false without that: `cancel_can_restore_more`). Either the
limiter is left as it was, or it is advanced to `t` and gains at most one token, capped at the
bucket size. -/
theorem C20.cancel_restores_at_most_reserved (c : CBucket) (r : Resv) (t : Nat) (hle : r.act ≤ c.lastEvent) :
    c.cancelAt r t = c ∨
      ((c.cancelAt r t).b.tokens ≤ c.b.tokensAt t + (c.b.unit : Int) ∧
       (c.cancelAt r t).b.tokens ≤ (c.b.cap : Int) ∧
       c.b.tokensAt t ≤ (c.cancelAt r t).b.tokens ∧
       (c.cancelAt r t).b.last = t ∧
       (c.cancelAt r t).lastEvent ≤ c.lastEvent) := by
  have hr := (C20.restore_le_unit_iff c r).mpr hle
  have hcap := c.b.tokensAt_le_cap t
  fun_cases CBucket.cancelAt c r t
  case case4 => -- the cancellation reaches the bucket
    right
    dsimp only
    refine ⟨by omega, by omega, by omega, rfl, ?_⟩
    split <;> omega
  all_goals exact .inl rfl

/-- A cancellation presented with an instant after the reservation's slot, or whose token has been
passed on to later reservations (`lastEvent − timeToAct ≥` one token's duration), does nothing. -/
theorem C20.cancel_noop (c : CBucket) (r : Resv) (t : Nat)
    (h : r.slot < t ∨ r.act + c.b.unit ≤ c.lastEvent) : c.cancelAt r t = c := by
  refine c.cancelAt_noop r t (h.imp id fun h => ?_)
  unfold CBucket.restore
  omega

/-- The per-event condition of `CHist.runOk`, spelled out for one cancellation. -/
theorem C20.credit_ok_iff (s : CHist) (i : Nat) (r : Resv) (hr : s.pending[i]? = some r) :
    s.creditOk (.cancel i) = true ↔ (r.slot < s.now ∨ r.act ≤ s.c.lastEvent) := by
  simp only [CHist.creditOk, hr, Bool.or_eq_true, decide_eq_true_eq, C20.restore_le_unit_iff]

/-- Kept counterexample: the unconditional form of `cancel_restores_at_most_reserved` is false even
without give-backs and with every instant current. 1 token/s, burst 2; at 0.5 s the bucket holds 1.5
tokens; three reservations at that instant get the slots 0.5 s, 1.0 s and (after the first is
cancelled, crediting ½) 1.5 s; cancelling the third rolls `lastEvent` back to 0.5 s, and cancelling
the second then credits 1.5 tokens. (In total 3 tokens for 3 cancellations: the bucket is back at
1.5, and the history meets `wasteOk` though not `runOk`.) -/
theorem C20.cancel_can_restore_more :
    let h : List CEv := [.allow, .adv 500000000, .reserve, .reserve, .cancel 0, .reserve, .cancel 1]
    let s := (CHist.init 1 1 2 0).run h
    h.all CEv.timely = true ∧
    s.pending = [⟨1000000000, 1000000000⟩] ∧ s.c.lastEvent = 500000000 ∧
    s.c.restore ⟨1000000000, 1000000000⟩ = 1500000000 ∧ s.creditOk (.cancel 0) = false ∧
    (s.step (.cancel 0)).c.b.tokens = 1500000000 ∧
    (CHist.init 1 1 2 0).runOk (h ++ [.cancel 0]) = false ∧
    (CHist.init 1 1 2 0).wasteOk 0 (h ++ [.cancel 0]) = true := by
  decide +kernel

/-- Per-event sufficient condition for the hypothesis of the budget theorems. -/
theorem C20.waste_ok_of_run_ok (s : CHist) (h : List CEv) (hok : s.runOk h = true) : s.wasteOk 0 h = true :=
  CHist.wasteOk_of_runOk h s 0 (Int.le_refl _) hok

/-- A reservation cancelled before anything else touches the limiter (the deadline test of
`limiterWait`) is the last event: it credits exactly its own token. -/
theorem C20.immediate_cancel_ok (s : CHist) (hinf : s.c.b.inf = false) (hp : 0 < s.c.b.p) (hb : 1 ≤ s.c.b.burst) :
    let s' := s.step .reserve
    s'.pending = s.pending ++ [⟨s.now + ceilDiv (s.c.b.deficit s.now) s.c.b.p, s.c.b.actScaled s.now⟩] ∧
    s'.c.lastEvent = s.c.b.actScaled s.now ∧
    s'.creditOk (.cancel s.pending.length) = true ∧
    s'.wasteStep (.cancel s.pending.length) = 0 := by
  have hfin : (!s.c.b.inf && decide (s.c.b.p ≠ 0)) = true := CBucket.finite_of s.c hinf hp
  rw [s.step_reserve_ok hinf hp hb]
  refine ⟨rfl, rfl, ?_, ?_⟩ <;>
    simp only [CHist.creditOk, CHist.wasteStep, CHist.credited_eq, List.getElem?_concat_length]
  -- `lastEvent` is the new reservation's `timeToAct`, so `restore` is exactly its token
  · simp [CBucket.restore]
  · simp only [CBucket.restore, CBucket.finite, hfin, Int.sub_self, Int.sub_zero, true_and]
    split <;> omega

/-- Prefix windows with cancellations. For every history of `allow` / `reserve` then `use` /
`reserve` then `cancel` / `giveBack` events with non-decreasing instants, in which cancellations
present the current instant and have together never credited more than they reserved: the live grants (datagrams written
and reservations still held; cancelled reservations are not among them) whose token is covered by
now, net of the tokens given back, number at most `burst + rate·(now − t0)`. Same shape as
`C20.prefix_bound`; every prefix of a history is a history. -/
theorem C20.prefix_bound_with_cancel (p q burst t0 : Nat) (hp : 0 < p) (h : List CEv)
    (ht : h.all CEv.timely = true) (hok : (CHist.init p q burst t0).wasteOk 0 h = true) :
    let s := (CHist.init p q burst t0).run h
    (q * nsPerSec) * s.effective (p * s.now) + p * t0
      ≤ burst * (q * nsPerSec) + p * s.now + (q * nsPerSec) * s.returned := by
  intro s
  obtain ⟨w, W, i⟩ := CHist.inv_run hp h (CHist.WF.init p q burst t0) (CHist.Inv.init p q burst t0) ht hok
  exact i.prefix_bound w

/-- Every datagram written under a grant left no earlier than the instant its token was covered,
and no later than now; so the datagrams are among the effective live grants. -/
theorem C20.datagrams_are_effective (p q burst t0 : Nat) (hp : 0 < p) (h : List CEv)
    (ht : h.all CEv.timely = true) (hok : (CHist.init p q burst t0).wasteOk 0 h = true) :
    let s := (CHist.init p q burst t0).run h
    (∀ d ∈ s.out, d.act ≤ p * d.time ∧ d.time ≤ s.now) ∧
    (∀ r ∈ s.pending, r.act ≤ p * r.slot) ∧
    s.sent ≤ s.effective (p * s.now) := by
  intro s
  obtain ⟨w, W, i⟩ := CHist.inv_run hp h (CHist.WF.init p q burst t0) (CHist.Inv.init p q burst t0) ht hok
  have io := i.out_ok
  have ip := i.pend_ok
  rw [w.hp] at io ip
  exact ⟨io, ip, i.sent_le_effective w⟩

/-- Hence the grants that became datagrams by now — cancelled reservations do not — number at most
`burst + rate·(now − t0)`, plus the tokens given back. -/
theorem C20.datagrams_bound_with_cancel (p q burst t0 : Nat) (hp : 0 < p) (h : List CEv)
    (ht : h.all CEv.timely = true) (hok : (CHist.init p q burst t0).wasteOk 0 h = true) :
    let s := (CHist.init p q burst t0).run h
    (q * nsPerSec) * s.sent + p * t0 ≤ burst * (q * nsPerSec) + p * s.now + (q * nsPerSec) * s.returned := by
  intro s
  obtain ⟨w, W, i⟩ := CHist.inv_run hp h (CHist.WF.init p q burst t0) (CHist.Inv.init p q burst t0) ht hok
  exact i.datagrams_bound w

/-! ## Kept counterexamples -/

/-- The seeded defect: cancelling with the STALE instant of the reservation, `CancelAt(t_reserve)`
instead of `CancelAt(time.Now())`, after another event has advanced the limiter. 1 token/s,
burst 1. A is sent at 0; B reserves at 0 for the slot 1 s; C at 0.6 s reserves (slot 2 s) and, its
deadline lying before the slot, cancels at 0.6 s; B gives up at 0.65 s but cancels with the instant
0: `advance(0)` moves `last` back to 0 and the 0.6 s already credited are credited again; D at
0.72 s is granted at once. Two datagrams by 0.72 s against a budget of 1.72. Every cancellation in
this history credits exactly its own token (`runOk`, `wasteOk`), so timeliness alone is what fails; with
`CancelAt(0.65 s)` D is refused. -/
theorem C20.stale_cancel_breaks_bound :
    let stale : List CEv := [.allow, .reserve, .adv 600000000, .reserve, .cancel 1, .adv 50000000,
      .cancelStale 0 0, .adv 70000000, .allow]
    let timely : List CEv := [.allow, .reserve, .adv 600000000, .reserve, .cancel 1, .adv 50000000,
      .cancel 0, .adv 70000000, .allow]
    let s := (CHist.init 1 1 1 0).run stale
    let s' := (CHist.init 1 1 1 0).run timely
    (s.now = 720000000 ∧ s.sent = 2 ∧ s.returned = 0 ∧ s.pending = [] ∧ s.cancelled = 2 ∧
      withinBudget 1 1 1 s.sent s.now = false ∧
      ¬ (1 * nsPerSec) * s.sent + 1 * 0 ≤ 1 * (1 * nsPerSec) + 1 * s.now + (1 * nsPerSec) * s.returned) ∧
    (CHist.init 1 1 1 0).runOk stale = true ∧ (CHist.init 1 1 1 0).wasteOk 0 stale = true ∧
    stale.all CEv.timely = false ∧
    (s'.now = 720000000 ∧ s'.sent = 1 ∧ s'.cancelled = 2 ∧ withinBudget 1 1 1 s'.sent s'.now = true ∧
      (CHist.init 1 1 1 0).wasteOk 0 timely = true ∧ timely.all CEv.timely = true) := by
  decide +kernel

/-- rate.go itself: a give-back (`AllowN(now, -1)`, after a failed socket write) while a reservation
is pending sets `lastEvent = now`, before that reservation's `timeToAct`; cancelling the reservation
then credits `1 + limit·(timeToAct − now)` tokens. 1 token/s, burst 3, everything at instant 0:
three sends, a reservation (slot 1 s), a give-back, the cancellation (credits 2 tokens), two more
sends: 5 grants became datagrams, one was given back, the budget is 3. All instants are current;
only `wasteOk` fails. -/
theorem C20.giveback_then_cancel_breaks_bound :
    let h : List CEv := [.allow, .allow, .allow, .reserve, .giveBack, .cancel 0, .allow, .allow]
    let s := (CHist.init 1 1 3 0).run h
    h.all CEv.timely = true ∧ (CHist.init 1 1 3 0).wasteOk 0 h = false ∧
    s.now = 0 ∧ s.sent = 5 ∧ s.returned = 1 ∧ s.cancelled = 1 ∧ s.pending = [] ∧
    ¬ (1 * nsPerSec) * s.sent + 1 * 0 ≤ 3 * (1 * nsPerSec) + 1 * s.now + (1 * nsPerSec) * s.returned := by
  decide +kernel

/-! ## Non-vacuity -/

/-- A history with both kinds of cancellation that meets the hypotheses of the theorems: 2/s,
burst 2. Two sends, three reservations (slots 0.5 s, 1 s, 1.5 s); the last is cancelled at 0.1 s
(one token back, `lastEvent` rolls back to 1 s), the first is cancelled at 0.2 s (its token has been
passed on: nothing is credited), the second is used at its slot; a send at 1 s is refused, one at
1.5 s passes. -/
example :
    let h : List CEv := [.allow, .allow, .reserve, .reserve, .reserve, .adv 100000000, .cancel 2,
      .adv 100000000, .cancel 0, .adv 800000000, .use 0, .allow, .adv 500000000, .allow]
    let s := (CHist.init 2 1 2 0).run h
    h.all CEv.timely = true ∧ (CHist.init 2 1 2 0).wasteOk 0 h = true ∧ (CHist.init 2 1 2 0).runOk h = true ∧
    s.cancelled = 2 ∧ s.sent = 4 ∧ s.pending = [] ∧ s.now = 1500000000 ∧
    s.out.map (·.time) = [1500000000, 1000000000, 0, 0] ∧ s.effective (2 * s.now) = 4 := by
  decide +kernel

/-- `cancel_restores_at_most_reserved`, second alternative, on a concrete limiter: 1/s, burst 1, one
send and one reservation at 0, cancelled at 0.25 s: the quarter token accrued plus the token back. -/
example :
    let c := ((CBucket.new 1 1 1 0).allow 0).2
    let r := c.reserve 0 none
    r.1 = some ⟨1000000000, 1000000000⟩ ∧ r.2.lastEvent = 1000000000 ∧
    (r.2.cancelAt ⟨1000000000, 1000000000⟩ 250000000).b.tokens = 250000000 ∧
    (r.2.cancelAt ⟨1000000000, 1000000000⟩ 250000000).lastEvent = 1000000000 := by
  decide +kernel

/-- The bound is still tight with cancellations: 1/s, burst 1; a reservation cancelled in time
leaves room for exactly the send it would have been. -/
example :
    let s := (CHist.init 1 1 1 0).run [.allow, .reserve, .adv 400000000, .cancel 0, .adv 600000000, .allow, .allow]
    s.sent = 2 ∧ s.cancelled = 1 ∧ (1 * nsPerSec) * s.sent + 1 * 0 = 1 * (1 * nsPerSec) + 1 * s.now := by
  decide +kernel

end Dht
