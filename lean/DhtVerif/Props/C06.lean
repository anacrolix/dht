/-
C06 — only directly verified contacts enter the table; good ones are never evicted.
-/
import DhtVerif.Model.Table
import DhtVerif.Lemmas.C06
import DhtVerif.Props.STNodes
import DhtVerif.Props.ST2Questionable
import DhtVerif.Props.ST2Local
namespace Dht

/-- One step: every entry of the new table continues an old one (same ID and
address) or was introduced by this very event. -/
theorem C06.step_provenance (c : TableCfg) (s s' : TblState) (ev : TblEv) (out : AddOutcome)
    (h : s.step c ev = some (s', out)) (n : Node) (hn : n ∈ s'.table) :
    (∃ n0 ∈ s.table, n.id = n0.id ∧ n.addr = n0.addr) ∨ ev.introduces n.id n.addr.key :=
  (TblState.step_mem h hn).imp_right And.left

/-- Provenance along a history from an arbitrary state. -/
theorem C06.run_provenance (c : TableCfg) (evs : List TblEv) (s0 s : TblState)
    (h : TblState.run c s0 evs = some s) (n : Node) (hn : n ∈ s.table) :
    (∃ n0 ∈ s0.table, n.id = n0.id ∧ n.addr = n0.addr) ∨ ∃ e ∈ evs, e.introduces n.id n.addr.key := by
  refine TblState.run_induction (P := fun s => ∀ n ∈ s.table, (∃ n0 ∈ s0.table, n.id = n0.id ∧ n.addr = n0.addr) ∨
    ∃ e ∈ evs, e.introduces n.id n.addr.key) h (fun n hn => .inl ⟨n, hn, rfl, rfl⟩) ?_ n hn
  intro e he s1 s2 o ih hs n hn
  rcases C06.step_provenance c s1 s2 e o hs n hn with ⟨n1, hn1, hid, haddr⟩ | hi
  · rw [hid, haddr]; exact ih n1 hn1
  · exact .inr ⟨e, he, hi⟩

/-- Every entry of every reachable table was introduced by a direct event
from its own address (never by hearsay: third-party node lists are not table
events at all, see `C06.update_sites`). -/
theorem C06.entry_provenance (c : TableCfg) (evs : List TblEv) (s : TblState)
    (h : TblState.run c {} evs = some s) (n : Node) (hn : n ∈ s.table) :
    ∃ e ∈ evs, e.introduces n.id n.addr.key :=
  (C06.run_provenance c evs {} s h n hn).resolve_left fun ⟨_, hn0, _⟩ => nomatch hn0

/-- A read-only sender, a response or query without a sender ID, and a failed
ping never add an entry. -/
theorem C06.non_adding_events (c : TableCfg) (s s' : TblState) (out : AddOutcome) (src : NAddr) (ch : Option Node) :
    (∀ id, s.step c (.recvQuery src id true ch) = some (s', out) → s'.table.length = s.table.length) ∧
    (∀ id, s.step c (.recvResponse src id true ch) = some (s', out) → s'.table.length = s.table.length) ∧
    (s.step c (.recvQuery src none false ch) = some (s', out) → s'.table = s.table) ∧
    (s.step c (.recvResponse src none false ch) = some (s', out) → s'.table = s.table) ∧
    (∀ id, s.step c (.pingFailed src id) = some (s', out) → s'.table.length = s.table.length) := by
  have key : ∀ {id : Option Id} {upd : Node → Node} {ch : Option Node},
      updateNode c s.now s.table src id false upd ch = some (s'.table, out) →
      s'.table.length = s.table.length := by
    intro id upd ch hu
    rcases updateNode_cases hu with ⟨h1, _⟩ | ⟨id', _, h1, _⟩ | ⟨id', i, u, _, hta, _⟩
    · rw [h1]
    · rw [h1, List.length_map]
    · cases hta
  have keyNone : ∀ {upd : Node → Node},
      updateNode c s.now s.table src none true upd ch = some (s'.table, out) → s'.table = s.table :=
    fun hu => (Prod.mk.inj (Option.some.inj hu)).1.symm
  exact ⟨fun id h => key (TblState.step_map_some h), fun id h => key (TblState.step_map_some h),
    fun h => keyNone (TblState.step_map_some (upd := onQuery s.now) h),
    fun h => keyNone (TblState.step_map_some (upd := onResponse s.now) h),
    fun id h => key (TblState.step_map_some h)⟩

/-- One step keeps "every entry is secure". -/
theorem C06.secure_step (c : TableCfg) (hsec : c.noSecurity = false) (s s' : TblState) (ev : TblEv) (out : AddOutcome)
    (h : s.step c ev = some (s', out)) (hs : ∀ n ∈ s.table, n.isSecure = true) :
    ∀ n ∈ s'.table, n.isSecure = true := by
  intro n hn
  rcases TblState.step_mem h hn with ⟨n0, h0, hid, haddr⟩ | ⟨_, hbad⟩
  · simpa [Node.isSecure, hid, haddr] using hs n0 h0
  · exact (isBad_false hbad).2.2.1 hsec

theorem C06.secure_run (c : TableCfg) (hsec : c.noSecurity = false) (evs : List TblEv) (s0 s : TblState)
    (h : TblState.run c s0 evs = some s) (hs : ∀ n ∈ s0.table, n.isSecure = true) :
    ∀ n ∈ s.table, n.isSecure = true :=
  TblState.run_induction (P := fun s => ∀ n ∈ s.table, n.isSecure = true) h hs
    fun e _ s1 s2 o h1 hst => C06.secure_step c hsec s1 s2 e o hst h1

/-- With the security extension enforced, every entry's ID is valid for its IP. -/
theorem C06.insecure_never_enters (c : TableCfg) (hsec : c.noSecurity = false) (evs : List TblEv) (s : TblState)
    (h : TblState.run c {} evs = some s) : ∀ n ∈ s.table, n.isSecure = true := by
  exact C06.secure_run c hsec evs {} s h (by intro n hn; cases hn)

/-- A contact that is currently good is never removed by any event. -/
theorem C06.good_never_removed (c : TableCfg) (s s' : TblState) (ev : TblEv) (out : AddOutcome)
    (h : s.step c ev = some (s', out)) (n : Node) (hn : n ∈ s.table) (hg : isGood c s.now n = true) :
    ∃ n' ∈ s'.table, n'.id = n.id ∧ n'.addr = n.addr := by
  refine (TblState.step_survive h hn).resolve_right fun ⟨_, hwhy⟩ => ?_
  have hgi := isGood_imp hg
  rcases hwhy with hb | ⟨hr, _⟩
  · rw [hgi.1] at hb; cases hb
  · rw [hr] at hgi; cases hgi.2

/-- An entry is displaced only if it is bad, or it has never answered and the
newcomer has just answered (the event is a matched response). At most one
entry leaves per event. -/
theorem C06.displaced_only_if (c : TableCfg) (s s' : TblState) (ev : TblEv) (out : AddOutcome)
    (h : s.step c ev = some (s', out)) (n : Node) (hn : n ∈ s.table)
    (hgone : ∀ n' ∈ s'.table, ¬ (n'.id = n.id ∧ n'.addr = n.addr)) :
    out = .replaced n ∧ (isBad c n = true ∨ (n.lastResp = none ∧ ∃ src id ro ch, ev = .recvResponse src id ro ch)) :=
  (TblState.step_survive h hn).resolve_left fun ⟨n', hn', hk⟩ => hgone n' hn' hk

/-- A sender eligible under the rules is admitted whenever its bucket has room. -/
theorem C06.eligible_admitted_when_room (c : TableCfg) (s : TblState) (src : NAddr) (id : Id) (ch : Option Node) (i : Nat)
    (hne : id ≠ c.root) (hbucket : bucketIndex c.root id = some i)
    (hroom : (bucketNodes c s.table i).length < c.k)
    (hok : isBad c { id := id, addr := src, lastQuery := some s.now } = false) :
    ∃ s' out, s.step c (.recvQuery src (some id) false ch) = some (s', out) ∧
      ∃ n ∈ s'.table, n.id = id ∧ n.addr.key = src.key := by
  -- the step of a query is `updateNode`'s result under `Option.map`, by definition
  cases hg : getNode c s.table src id with
  | some x =>
    obtain ⟨hx, his, hid, hkey, _⟩ := getNode_some hg
    exact ⟨_, _, congrArg (Option.map _) (updateNode_present hg), onQuery s.now x,
      List.mem_map.mpr ⟨x, hx, by simp [his]⟩, hid, hkey⟩
  | none =>
    exact ⟨_, _, congrArg (Option.map _) (updateNode_room (upd := onQuery s.now) hg hne hok hbucket hroom),
      onQuery s.now { id := id, addr := src }, List.mem_append_right _ (List.mem_singleton_self _), rfl, rfl⟩

/-- T1: the places in server.go that may add to the table are exactly the
inbound-query handler, the matched-response path and the add API (each with a
try-add argument), plus the failed-ping update which passes `false`. -/
theorem C06.update_sites :
    Gen.updateNodeSites = [
      "server.go:Server.processPacket|!d.ReadOnly",
      "server.go:Server.AddNode|true",
      "server.go:Server.handleQuery|!m.ReadOnly",
      "server.go:Server.questionableNodePing|false"] :=
  rfl

/-! ## Non-vacuity (the history `Demo.hist` of `Lemmas/C05.lean`: bucket 157 of a k = 2 table) -/

/-- `C06.entry_provenance` / `C06.good_never_removed` on the demo history: the end
table is `[n5, n6]`, `n6` is good and came in by its own matched response. -/
example : (TblState.run Demo.cfg {} Demo.hist).map (·.table) = some [Demo.n5, Demo.n6] ∧
    isGood Demo.cfg 5 Demo.n6 = true ∧ Demo.evResp ∈ Demo.hist ∧
    Demo.evResp.introduces Demo.n6.id Demo.n6.addr.key := by
  refine ⟨Demo.run_hist, by decide, by simp [Demo.hist], ?_⟩
  exact ⟨rfl, rfl, rfl⟩

/-- The hypotheses of `C06.displaced_only_if` are met by the replacement step:
`n4` (never responded) is gone after a matched response of a third node. -/
example : Demo.full.step Demo.cfg Demo.evResp = some (Demo.after, .replaced Demo.n4) ∧
    Demo.n4 ∈ Demo.full.table ∧ Demo.n4.lastResp = none ∧ isBad Demo.cfg Demo.n4 = false ∧
    (∀ n' ∈ Demo.after.table, ¬ (n'.id = Demo.n4.id ∧ n'.addr = Demo.n4.addr)) := by
  refine ⟨by rfl, by simp [Demo.full], rfl, by decide, ?_⟩
  decide +kernel

/-- A good entry survives the same kind of event (`C06.good_never_removed`): with
`n6` (good) and `n5` in the full bucket, a response from yet another ID evicts `n5`. -/
example : isGood Demo.cfg 5 Demo.n6 = true ∧
    Demo.after.step Demo.cfg (.recvResponse (Demo.a 4) (some (Demo.idx 7)) false (some Demo.n5)) =
      some ({ now := 5, table := [Demo.n6, { id := Demo.idx 7, addr := Demo.a 4, lastResp := some 5 }] },
        .replaced Demo.n5) ∧
    Demo.after.step Demo.cfg (.recvResponse (Demo.a 4) (some (Demo.idx 7)) false (some Demo.n6)) = none := by
  refine ⟨by decide, by rfl, by rfl⟩

/-- `C06.eligible_admitted_when_room`: its hypotheses hold for the first event of the demo. -/
example : Demo.idx 4 ≠ Demo.cfg.root ∧ bucketIndex Demo.cfg.root (Demo.idx 4) = some 157 ∧
    (bucketNodes Demo.cfg ({} : TblState).table 157).length < Demo.cfg.k ∧
    isBad Demo.cfg { id := Demo.idx 4, addr := Demo.a 1, lastQuery := some ({} : TblState).now } = false := by
  decide +kernel

/-- A read-only sender is not added; one without an ID changes nothing (`C06.non_adding_events`). -/
example : ({} : TblState).step Demo.cfg (.recvQuery (Demo.a 1) (some (Demo.idx 4)) true none) =
    some ({}, .unchanged "not present and add flag false") := by rfl

namespace Demo
def secCfg : TableCfg := { root := root, k := 2, noSecurity := false, window := 1000 }
/-- BEP 42 test vector: 124.31.75.21, seed 1, prefix 5f bf bf -/
def secAddr : NAddr := { ip := [124, 31, 75, 21], port := 1 }
def secId : Id := [0x5f, 0xbf, 0xbf] ++ List.replicate 16 7 ++ [1]
end Demo

/-- `C06.insecure_never_enters` is not vacuous: with security enforced a BEP 42
conforming sender is admitted, a non-conforming one from the same address is not. -/
example : nodeIdSecure Demo.secId Demo.secAddr.ip = some true ∧
    nodeIdSecure (Demo.idx 4) Demo.secAddr.ip = some false := by
  constructor <;> decide +kernel

example : (({} : TblState).step Demo.secCfg (.recvQuery Demo.secAddr (some Demo.secId) false none)).map (·.2)
      = some .added ∧
    (({} : TblState).step Demo.secCfg (.recvQuery Demo.secAddr (some (Demo.idx 4)) false none)).map (·.2)
      = some (.unchanged "node is bad") := by
  constructor <;> decide +kernel

/-- T1: both liveness windows of `IsGood` are the 15 minutes of BEP 5 (the model's `window` is this regenerated constant). -/
theorem C06.good_window_is_15_minutes :
    Gen.goodWindowsNs = [15 * 60 * 1000000000, 15 * 60 * 1000000000] ∧
    ({ root := [] } : TableCfg).window = 15 * 60 * 1000000000 ∧ ({ root := [] } : TableCfg).k = 8 := by
  decide

/-- T1 by translation: `Server.nodeErr` and `Server.IsGood` are the model's `isBad` and `isGood`. -/
theorem C06.bad_and_good_are_the_source (c : TableCfg) (now : Nat) (n : Node) :
    DExp.evalWith (nodeErrCond c n) nodeErrRet Gen.treeNodeErr = some (isBad c n) ∧
    DExp.evalWith (isGoodCond c n) (isGoodRet c now n) Gen.treeIsGood = some (isGood c now n) :=
  ⟨SourceTrees.nodeErr c n, SourceTrees.isGood c now n⟩

/-- T1 by translation: `Server.IsQuestionable` in node.go (with `IsGood` and `nodeErr` read from their own
sources) is the model's `isQuestionable`. -/
theorem C06.isQuestionable_is_the_source (c : TableCfg) (now : Nat) (n : Node) :
    DExp.evalWith noCond (iqRet c now n) Gen.treeIsQuestionable = some (isQuestionable c now n) :=
  SourceTrees.isQuestionable c now n

/-- T1 by translation: under enforcement admission turns on `NodeIdSecure`, whose exemption for local networks is
`isLocalNetwork` in security.go (with the networks its `init` parses) - the model's `isLocalNetwork`, for all addresses.
(An exemption widened to ranges that merely look private admits arbitrary IDs from there.) -/
theorem C06.isLocalNetwork_is_the_source (ip : List UInt8) :
    Gen.treeSecurityInitLets = ilnInitExpected ∧
    DExp.evalWith (ilnCond ip) boolRet Gen.treeIsLocalNetwork = some (isLocalNetwork ip) :=
  SourceTrees.isLocalNetwork ip

end Dht
