/-
An ID is a big-endian number. `toNat` turns byte-wise xor into numeric xor and, on equal
lengths, `cmp` into numeric comparison, so the metric laws are facts about `Nat`. For any lengths `cmp` is core's
lexicographic `compare` on `List UInt8`, and its order laws are core's.
-/
import DhtVerif.Model.Containers
import DhtVerif.Lemmas.Basic
namespace Dht
open Std

/-- Go's `if a < b { lt } else if a > b { gt } else { c }`. -/
theorem ite_lt_gt_eq_then {α} [Ord α] [LT α] [LE α] [DecidableLT α] [LawfulOrderOrd α] [LawfulOrderLT α]
    (a b : α) (c : Ordering) :
    (if a < b then .lt else if a > b then .gt else c) = (compare a b).then c := by
  have h1 := compare_eq_lt (a := a) (b := b)
  have h2 := compare_eq_gt (a := a) (b := b)
  cases h : compare a b <;> simp_all [GT.gt]

theorem Nat.xor_left_inj {a b : Nat} (c : Nat) : a ^^^ c = b ^^^ c ↔ a = b :=
  ⟨fun h => by simpa [Nat.xor_assoc] using congrArg (· ^^^ c) h, fun h => h ▸ rfl⟩

theorem Nat.xor_eq_zero_iff {a b : Nat} : a ^^^ b = 0 ↔ a = b := by
  rw [← Nat.xor_self b, Nat.xor_left_inj]

theorem Nat.compare_mul_add {P a b : Nat} (x y : Nat) (ha : a < P) (hb : b < P) :
    compare (x * P + a) (y * P + b) = (compare x y).then (compare a b) := by
  rcases Nat.lt_trichotomy x y with h | rfl | h
  · have := Nat.mul_le_mul_right P (Nat.succ_le_of_lt h)
    rw [Nat.succ_mul] at this
    rw [Nat.compare_eq_lt.mpr h, Nat.compare_eq_lt.mpr (by omega)]; rfl
  · rw [Nat.compare_eq_eq.mpr rfl, Ordering.eq_then, Nat.compare_eq_ite_lt, Nat.compare_eq_ite_lt]
    simp only [Nat.add_lt_add_iff_left]
  · have := Nat.mul_le_mul_right P (Nat.succ_le_of_lt h)
    rw [Nat.succ_mul] at this
    rw [Nat.compare_eq_gt.mpr h, Nat.compare_eq_gt.mpr (by omega)]; rfl

theorem UInt8.compare_eq_toNat (x y : UInt8) : compare x y = compare x.toNat y.toNat := by
  simp only [compare, compareOfLessAndEq, UInt8.lt_iff_toNat_lt, ← UInt8.toNat_inj]

namespace Id

@[simp] theorem xor_nil_left (b : Id) : xor [] b = [] := by simp [xor]
@[simp] theorem xor_nil_right (a : Id) : xor a [] = [] := by simp [xor]
@[simp] theorem xor_cons (x y : UInt8) (a b : Id) :
    xor (x :: a) (y :: b) = (x ^^^ y) :: xor a b := by simp [xor]

theorem xor_length (a b : Id) : (xor a b).length = min a.length b.length := by
  simp [xor]

theorem xor_comm (a b : Id) : xor a b = xor b a :=
  List.zipWith_comm_of_comm UInt8.xor_comm

theorem rec₂ {P : (a b : Id) → a.length = b.length → Prop} (nil : P [] [] rfl)
    (cons : ∀ x y a b h, P a b h → P (x :: a) (y :: b) (congrArg Nat.succ h)) :
    ∀ a b h, P a b h
  | [], [], _ => nil
  | x :: a, y :: b, h => cons x y a b (Nat.succ.inj h) (rec₂ nil cons a b (Nat.succ.inj h))

@[simp] theorem toNat_nil : toNat [] = 0 := rfl
theorem toNat_cons (x : UInt8) (xs : Id) :
    toNat (x :: xs) = x.toNat * 256 ^ xs.length + toNat xs := rfl

theorem toNat_lt (a : Id) : a.toNat < 256 ^ a.length := by
  induction a with
  | nil => simp
  | cons x a ih =>
    have h1 := Nat.mul_le_mul_right (256 ^ a.length) (Nat.succ_le_of_lt x.toNat_lt)
    rw [toNat_cons, List.length_cons, Nat.pow_succ]
    rw [Nat.succ_mul] at h1
    omega

theorem pow256 (n : Nat) : 256 ^ n = 2 ^ (8 * n) := by
  rw [show (256 : Nat) = 2 ^ 8 from rfl, ← Nat.pow_mul]

theorem toNat_lt_two_pow (a : Id) : a.toNat < 2 ^ (8 * a.length) := by
  rw [← pow256]; exact toNat_lt a

theorem testBit_toNat_cons (x : UInt8) (xs : Id) (j : Nat) :
    (toNat (x :: xs)).testBit j =
      if j < 8 * xs.length then (toNat xs).testBit j else x.toNat.testBit (j - 8 * xs.length) := by
  rw [toNat_cons, pow256, Nat.mul_comm, Nat.testBit_two_pow_mul_add _ (toNat_lt_two_pow xs)]

theorem toNat_xor (a b : Id) (h : a.length = b.length) :
    (xor a b).toNat = a.toNat ^^^ b.toNat := by
  induction a, b, h using rec₂ with
  | nil => rfl
  | cons x y a b h ih =>
    apply Nat.eq_of_testBit_eq
    intro j
    have hl : (xor a b).length = b.length := by rw [xor_length]; omega
    rw [xor_cons, Nat.testBit_xor, testBit_toNat_cons, testBit_toNat_cons, testBit_toNat_cons,
      hl, h, ih, UInt8.toNat_xor]
    split <;> simp [Nat.testBit_xor]

theorem isZero_iff (a : Id) : a.isZero = true ↔ a.toNat = 0 := by
  induction a with
  | nil => simp [isZero]
  | cons x a ih =>
    simp only [isZero] at ih
    simp [isZero, toNat_cons, ih, ← UInt8.toNat_inj, Nat.mul_eq_zero, Nat.pow_eq_zero]

theorem cmp_eq_compare (a b : Id) : cmp a b = compare a b := by
  induction a generalizing b with
  | nil => cases b <;> rfl
  | cons x a ih =>
    cases b with
    | nil => rfl
    | cons y b => rw [List.compare_cons_cons, ← ih, cmp, ite_lt_gt_eq_then]

theorem cmp_eq_compare_toNat (a b : Id) (h : a.length = b.length) :
    cmp a b = compare a.toNat b.toNat := by
  rw [cmp_eq_compare]
  induction a, b, h using rec₂ with
  | nil => rfl
  | cons x y a b h ih =>
    rw [List.compare_cons_cons, ih, toNat_cons, toNat_cons, h,
      Nat.compare_mul_add _ _ (h ▸ toNat_lt a) (toNat_lt b), UInt8.compare_eq_toNat]

theorem toNat_injective (a b : Id) (h : a.length = b.length) (e : a.toNat = b.toNat) : a = b := by
  have := cmp_eq_compare_toNat a b h
  rw [e, Nat.compare_eq_eq.mpr rfl, cmp_eq_compare] at this
  exact compare_eq_iff_eq.mp this

theorem cmp_eq_iff (a b : Id) : cmp a b = .eq ↔ a = b := by
  rw [cmp_eq_compare]; exact compare_eq_iff_eq

theorem cmp_self (a : Id) : cmp a a = .eq := (cmp_eq_iff a a).mpr rfl

theorem cmp_gt_iff (a b : Id) : cmp a b = .gt ↔ cmp b a = .lt := by
  rw [cmp_eq_compare, cmp_eq_compare]; exact OrientedCmp.gt_iff_lt

theorem cmp_lt_trans (a b c : Id) (h1 : cmp a b = .lt) (h2 : cmp b c = .lt) : cmp a c = .lt := by
  rw [cmp_eq_compare] at *; exact TransCmp.lt_trans h1 h2

theorem cmp_lt_iff_toNat (a b : Id) (h : a.length = b.length) : cmp a b = .lt ↔ a.toNat < b.toNat := by
  rw [cmp_eq_compare_toNat a b h, Nat.compare_eq_lt]

theorem xor_isZero_iff (a b : Id) (h : a.length = b.length) :
    (xor a b).isZero = true ↔ a = b := by
  rw [isZero_iff, toNat_xor a b h, Nat.xor_eq_zero_iff]
  exact ⟨toNat_injective a b h, congrArg toNat⟩

theorem xor_right_cancel (t a b : Id) (ha : a.length = t.length) (hb : b.length = t.length)
    (h : xor a t = xor b t) : a = b := by
  apply toNat_injective a b (ha.trans hb.symm)
  rw [← Nat.xor_left_inj t.toNat, ← toNat_xor a t ha, ← toNat_xor b t hb, h]

theorem distance_length (a t : Id) (ha : a.length = 20) (ht : t.length = 20) : (distance a t).length = 20 := by
  simp [distance, xor_length, ha, ht]

end Id
end Dht
