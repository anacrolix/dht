/- The routing table: key-preserving updates, bucket bookkeeping and counting; `updateNode` and
`TblState.step` by cases; the well-formedness invariant `Table.Inv` and what preserves it; induction
over histories; and the small history `Demo.hist` on which the properties' examples run. -/
import DhtVerif.Model.Table
import DhtVerif.Lemmas.C18
namespace Dht

def KeyPres (f : Node → Node) : Prop := ∀ n, (f n).id = n.id ∧ (f n).addr = n.addr

theorem keyPres_onQuery (now : Nat) : KeyPres (onQuery now) := fun _ => ⟨rfl, rfl⟩
theorem keyPres_onResponse (now : Nat) : KeyPres (onResponse now) := fun _ => ⟨rfl, rfl⟩
theorem keyPres_onPingFailed : KeyPres onPingFailed := fun _ => ⟨rfl, rfl⟩
theorem keyPres_id : KeyPres (fun n => n) := fun _ => ⟨rfl, rfl⟩

theorem KeyPres.ite {upd : Node → Node} (h : KeyPres upd) (p : Node → Bool) :
    KeyPres (fun n => if p n then upd n else n) := by
  intro n
  by_cases hp : p n = true <;> simp [hp, h n]

theorem KeyPres.bucket {f : Node → Node} (h : KeyPres f) (c : TableCfg) (n : Node) :
    (f n).bucket c = n.bucket c := by
  simp [Node.bucket, (h n).1]

theorem KeyPres.isSecure {f : Node → Node} (h : KeyPres f) (n : Node) :
    (f n).isSecure = n.isSecure := by
  simp [Node.isSecure, (h n).1, (h n).2]

theorem bucketNodes_map {f : Node → Node} (h : KeyPres f) (c : TableCfg) (t : Table) (i : Nat) :
    bucketNodes c (t.map f) i = (bucketNodes c t i).map f := by
  unfold bucketNodes
  rw [List.filter_map]
  congr 1
  apply List.filter_congr
  intro n _
  simp [h.bucket c n]

theorem bucketNodes_append (c : TableCfg) (t u : Table) (i : Nat) :
    bucketNodes c (t ++ u) i = bucketNodes c t i ++ bucketNodes c u i := by
  simp [bucketNodes]

theorem bucketNodes_filter (c : TableCfg) (t : Table) (p : Node → Bool) (i : Nat) :
    bucketNodes c (t.filter p) i = (bucketNodes c t i).filter p := by
  simp only [bucketNodes, List.filter_filter]
  apply List.filter_congr
  intro n _
  exact Bool.and_comm _ _

theorem bucketNodes_single (c : TableCfg) (n : Node) (i j : Nat) (hn : n.bucket c = some i) :
    bucketNodes c [n] j = if j = i then [n] else [] := by
  by_cases hj : j = i
  · subst hj; simp [bucketNodes, hn]
  · have : ¬ i = j := fun h => hj h.symm
    simp [bucketNodes, hn, hj, this]

theorem bucketNodes_snoc_length (c : TableCfg) (t : Table) (n : Node) (i j : Nat) (hn : n.bucket c = some i) :
    (bucketNodes c (t ++ [n]) j).length = (bucketNodes c t j).length + (if j = i then 1 else 0) := by
  rw [bucketNodes_append, bucketNodes_single c n i j hn]
  by_cases hj : j = i <;> simp [hj]

theorem mem_bucketNodes {c : TableCfg} {t : Table} {i : Nat} {n : Node} :
    n ∈ bucketNodes c t i ↔ n ∈ t ∧ n.bucket c = some i := by
  simp [bucketNodes]

theorem isBad_false {c : TableCfg} {n : Node} (h : isBad c n = false) :
    n.id ≠ c.root ∧ n.id.isZero = false ∧ (c.noSecurity = false → n.isSecure = true) ∧ n.failed = false := by
  simp [isBad] at h
  obtain ⟨⟨⟨h1, h2⟩, h3⟩, h4⟩ := h
  exact ⟨h1, h2, h3, h4⟩

theorem isGood_imp {c : TableCfg} {now : Nat} {n : Node} (h : isGood c now n = true) :
    isBad c n = false ∧ n.lastResp.isSome = true := by
  simp [isGood] at h
  refine ⟨h.1, ?_⟩
  rcases h.2 with h2 | h2
  · cases hr : n.lastResp with
    | none => simp [hr, recent] at h2
    | some _ => rfl
  · exact h2.1

theorem getNode_none {c : TableCfg} {t : Table} {addr : NAddr} {id : Id}
    (h : getNode c t addr id = none) (hne : id ≠ c.root) :
    ∀ a ∈ t, ¬ (a.id = id ∧ a.addr.key = addr.key) := by
  intro a ha hk
  simp [getNode, hne, Node.is] at h
  exact h a ha hk.1 hk.2

theorem getNode_some {c : TableCfg} {t : Table} {addr : NAddr} {id : Id} {x : Node}
    (h : getNode c t addr id = some x) :
    x ∈ t ∧ x.is addr id = true ∧ x.id = id ∧ x.addr.key = addr.key ∧ id ≠ c.root := by
  revert h
  fun_cases getNode c t addr id <;> intro h
  · cases h
  · have h2 := List.find?_some h
    have h3 := Bool.and_eq_true_iff.mp h2
    exact ⟨List.mem_of_find?_eq_some h, h2, eq_of_beq h3.1, eq_of_beq h3.2, fun e => ‹¬_› (beq_iff_eq.mpr e)⟩

theorem length_eq_sum_buckets (c : TableCfg) (N : Nat) (t : Table)
    (h : ∀ n ∈ t, ∃ i, n.bucket c = some i ∧ i < N) :
    t.length = ((List.range N).map (fun i => (bucketNodes c t i).length)).sum := by
  induction t with
  | nil => simp [bucketNodes, List.map_const']
  | cons n t ih =>
    obtain ⟨i0, hb, hlt⟩ := h n List.mem_cons_self
    have : (fun i => (bucketNodes c (n :: t) i).length)
        = (fun i => (if i = i0 then 1 else 0) + (bucketNodes c t i).length) := by
      funext i
      rw [← List.singleton_append, bucketNodes_append, bucketNodes_single c n i0 i hb, List.length_append]
      split <;> rfl
    rw [this, sum_map_add, sum_indicator, List.count_range, if_pos hlt,
      ← ih fun m hm => h m (List.mem_cons_of_mem _ hm), List.length_cons, Nat.add_comm]

theorem mem_droppable {c : TableCfg} {now : Nat} {t : Table} {n d : Node} :
    d ∈ droppable c now t n ↔ d ∈ t ∧ d.bucket c = n.bucket c ∧ (n.bucket c).isSome ∧
      (isBad c d = true ∨ (isGood c now n = true ∧ d.lastResp = none)) := by
  unfold droppable
  cases n.bucket c <;> simp [mem_bucketNodes, and_assoc]

/-- A defined call left the table alone, updated the sender's entry in place, or appended the
freshly built sender to `u`: the table itself if the bucket had room, else the table without one
droppable entry. -/
theorem updateNode_cases {c : TableCfg} {now : Nat} {t : Table} {addr : NAddr} {id : Option Id} {tryAdd : Bool}
    {upd : Node → Node} {choice : Option Node} {t' : Table} {out : AddOutcome}
    (h : updateNode c now t addr id tryAdd upd choice = some (t', out)) :
    (t' = t ∧ ∃ why, out = .unchanged why) ∨
    (∃ id', id = some id' ∧ t' = t.map (fun n => if n.is addr id' then upd n else n) ∧ out = .updated) ∨
    (∃ id' i u, id = some id' ∧ tryAdd = true ∧ getNode c t addr id' = none ∧ id' ≠ c.root ∧
        isBad c (upd { id := id', addr := addr }) = false ∧
        (upd { id := id', addr := addr }).bucket c = some i ∧
        (bucketNodes c u i).length < c.k ∧ t' = u ++ [upd { id := id', addr := addr }] ∧
        (u = t ∧ out = .added ∨
          ∃ d ∈ droppable c now t (upd { id := id', addr := addr }),
            u = t.filter (fun x => !(x == d)) ∧ out = .replaced d ∧ choice = some d)) := by
  revert h
  fun_cases updateNode c now t addr id tryAdd upd choice
  all_goals intro h; cases h
  case case2 id' _ _ => -- the sender is in the table
    exact .inr (.inl ⟨id', rfl, rfl, rfl⟩)
  case case7 id' hg hta hroot n hbad i hi hlen => -- new, and its bucket has room
    exact .inr (.inr ⟨id', i, t, rfl, by simpa using hta, hg, by simpa using hroot, by simpa using hbad, hi, hlen,
      rfl, .inl ⟨rfl, rfl⟩⟩)
  case case10 id' hg hta hroot n hbad i hi _ ds _ d hd u hlen => -- new, bucket full, `choice` is droppable
    exact .inr (.inr ⟨id', i, u, rfl, by simpa using hta, hg, by simpa using hroot, by simpa using hbad, hi, hlen,
      rfl, .inr ⟨d, by simpa using hd, rfl, rfl, rfl⟩⟩)
  all_goals exact .inl ⟨rfl, _, rfl⟩

theorem updateNode_present {c : TableCfg} {now : Nat} {t : Table} {addr : NAddr} {id : Id} {x : Node}
    {tryAdd : Bool} {upd : Node → Node} {ch : Option Node} (h : getNode c t addr id = some x) :
    updateNode c now t addr (some id) tryAdd upd ch =
      some (t.map (fun n => if n.is addr id then upd n else n), .updated) := by
  simp [updateNode, h]

theorem updateNode_room {c : TableCfg} {now : Nat} {t : Table} {addr : NAddr} {id : Id} {upd : Node → Node} {i : Nat}
    {ch : Option Node} (hg : getNode c t addr id = none) (hne : id ≠ c.root)
    (hbad : isBad c (upd { id := id, addr := addr }) = false) (hb : (upd { id := id, addr := addr }).bucket c = some i)
    (hroom : (bucketNodes c t i).length < c.k) :
    updateNode c now t addr (some id) true upd ch = some (t ++ [upd { id := id, addr := addr }], .added) := by
  simp [updateNode, hg, hne, hbad, hb, hroom]

theorem updateNode_isSome {c : TableCfg} {now : Nat} {t : Table} {addr : NAddr} {id : Option Id} {tryAdd : Bool}
    {upd : Node → Node} {ch : Option Node}
    (hb : ∀ i, (bucketNodes c t i).length ≤ c.k)
    (hch : tryAdd = false ∨ ∀ id', id = some id' →
      droppable c now t (upd { id := id', addr := addr }) = [] ∨
      ∃ d ∈ droppable c now t (upd { id := id', addr := addr }), ch = some d) :
    (updateNode c now t addr id tryAdd upd ch).isSome = true := by
  fun_cases updateNode c now t addr id tryAdd upd ch
  -- the four `none` branches: root ID past the bad check; no choice; re-check fails; choice not droppable
  case case6 id' _ _ _ n hbad hnone =>
    exact absurd ((bucketIndex_eq_none_iff c.root n.id).mp hnone) (isBad_false (by simpa using hbad)).1
  case case9 id' _ hta _ n _ i _ _ ds hne =>
    rcases hch with hf | hch
    · simp [hf] at hta
    · rcases hch id' rfl with he | ⟨d, _, hc⟩
      · exact absurd (by simpa using he) hne
      · cases hc
  case case11 id' _ _ _ n _ i hi _ ds _ d hd u hlen =>
    have hdb : d ∈ bucketNodes c t i :=
      mem_bucketNodes.mpr ⟨(mem_droppable.mp (by simpa using hd)).1, by rw [(mem_droppable.mp (by simpa using hd)).2.1, hi]⟩
    rw [bucketNodes_filter] at hlen
    exact absurd (Nat.lt_of_lt_of_le (List.length_filter_lt_length_iff_exists.mpr ⟨d, hdb, by simp⟩) (hb i)) hlen
  case case12 id' _ hta _ n _ i _ _ ds hne d hd =>
    rcases hch with hf | hch
    · simp [hf] at hta
    · rcases hch id' rfl with he | ⟨d', hd', hc⟩
      · exact absurd (by simpa using he) hne
      · cases hc; exact absurd hd' (by simpa using hd)
  all_goals rfl

theorem updateNode_exists_choice {c : TableCfg} {t : Table} (hb : ∀ i, (bucketNodes c t i).length ≤ c.k) (now : Nat)
    (addr : NAddr) (id : Option Id) (tryAdd : Bool) (upd : Node → Node) :
    ∃ ch, (updateNode c now t addr id tryAdd upd ch).isSome = true := by
  cases id with
  | none => exact ⟨none, rfl⟩
  | some id' =>
    cases hd : droppable c now t (upd { id := id', addr := addr }) with
    | nil => exact ⟨none, updateNode_isSome hb (.inr fun _ h => by cases h; exact .inl hd)⟩
    | cons d ds =>
      exact ⟨some d, updateNode_isSome hb (.inr fun _ h => by cases h; exact .inr ⟨d, hd ▸ List.mem_cons_self, rfl⟩)⟩

/-- Well-formedness of a table for root `c.root` and bucket size `c.k`:
every entry has a bucket index below 160 (so it is not the root ID), is not the
zero ID, no bucket exceeds `k`, and no two entries share ID and address. -/
structure Table.Inv (c : TableCfg) (t : Table) : Prop where
  bucketed : ∀ n ∈ t, ∃ i, n.bucket c = some i ∧ i < 160
  notRoot  : ∀ n ∈ t, n.id ≠ c.root
  notZero  : ∀ n ∈ t, n.id.isZero = false
  bounded  : ∀ i, (bucketNodes c t i).length ≤ c.k
  distinct : t.Pairwise (fun a b => ¬ (a.id = b.id ∧ a.addr.key = b.addr.key))

theorem Table.Inv.snoc {c : TableCfg} {t : Table} {n : Node} {i : Nat} (hroot : c.root.length = 20)
    (hinv : Table.Inv c t) (hlen : n.id.length = 20) (hbad : isBad c n = false)
    (hb : n.bucket c = some i) (hroom : (bucketNodes c t i).length < c.k)
    (hnew : ∀ a ∈ t, ¬ (a.id = n.id ∧ a.addr.key = n.addr.key)) : Table.Inv c (t ++ [n]) := by
  have hnb := isBad_false hbad
  refine ⟨List.forall_mem_append.mpr ⟨hinv.bucketed, ?_⟩, List.forall_mem_append.mpr ⟨hinv.notRoot, ?_⟩,
    List.forall_mem_append.mpr ⟨hinv.notZero, ?_⟩, ?_,
    List.pairwise_append.mpr ⟨hinv.distinct, List.pairwise_singleton _ _,
      fun a ha b hb => List.mem_singleton.mp hb ▸ hnew a ha⟩⟩
  · exact List.forall_mem_singleton.mpr ⟨i, hb, bucketIndex_lt c.root n.id i hroot hlen hb⟩
  · exact List.forall_mem_singleton.mpr hnb.1
  · exact List.forall_mem_singleton.mpr hnb.2.1
  · intro j
    rw [bucketNodes_snoc_length c t n i j hb]
    have := hinv.bounded j
    split
    · subst j; omega
    · omega

theorem Table.Inv.sublist {c : TableCfg} {t u : Table} (hinv : Table.Inv c t) (h : u.Sublist t) : Table.Inv c u :=
  ⟨fun m hm => hinv.bucketed m (h.subset hm), fun m hm => hinv.notRoot m (h.subset hm),
    fun m hm => hinv.notZero m (h.subset hm),
    fun j => Nat.le_trans (h.filter _).length_le (hinv.bounded j), hinv.distinct.sublist h⟩

theorem Table.Inv.filter {c : TableCfg} {t : Table} (hinv : Table.Inv c t) (p : Node → Bool) :
    Table.Inv c (t.filter p) :=
  hinv.sublist List.filter_sublist

theorem Table.Inv.map {c : TableCfg} {t : Table} (hinv : Table.Inv c t) {f : Node → Node} (hf : KeyPres f) :
    Table.Inv c (t.map f) := by
  refine ⟨List.forall_mem_map.mpr fun m hm => ?_, List.forall_mem_map.mpr fun m hm => ?_,
    List.forall_mem_map.mpr fun m hm => ?_, fun j => ?_,
    List.pairwise_map.mpr (hinv.distinct.imp fun {a b} hab => by rwa [(hf a).1, (hf a).2, (hf b).1, (hf b).2])⟩
  · rw [hf.bucket]; exact hinv.bucketed m hm
  · rw [(hf m).1]; exact hinv.notRoot m hm
  · rw [(hf m).1]; exact hinv.notZero m hm
  · rw [bucketNodes_map hf, List.length_map]; exact hinv.bounded j

theorem Table.Inv.updateNode {c : TableCfg} (hroot : c.root.length = 20) {now : Nat} {t t' : Table} {addr : NAddr}
    {id : Option Id} {tryAdd : Bool} {upd : Node → Node} {ch : Option Node} {out : AddOutcome}
    (hinv : Table.Inv c t) (hupd : KeyPres upd) (hid : ∀ i, id = some i → i.length = 20)
    (h : Dht.updateNode c now t addr id tryAdd upd ch = some (t', out)) : Table.Inv c t' := by
  rcases updateNode_cases h with ⟨rfl, _⟩ | ⟨id', _, rfl, _⟩ | ⟨id', i, u, hid', _, hg, hne, hbad, hb, hroom, rfl, hu⟩
  · exact hinv
  · exact hinv.map (hupd.ite _)
  · have hk := hupd { id := id', addr := addr }
    have hsub : u.Sublist t := by
      rcases hu with ⟨rfl, _⟩ | ⟨d, _, rfl, _⟩
      · exact .refl _
      · exact List.filter_sublist
    refine (hinv.sublist hsub).snoc hroot (by rw [hk.1]; exact hid id' hid') hbad hb hroom ?_
    rw [hk.1, hk.2]
    exact fun a ha => getNode_none hg hne a (hsub.subset ha)

def TblEv.idOf : TblEv → Option Id
  | .recvQuery _ id _ _ => id
  | .recvResponse _ id _ _ => id
  | .apiAdd _ id _ => some id
  | .pingFailed _ id => some id
  | .advance _ => none

/-- The events through which (id, addr) may enter: a query or a matched
response from that very address carrying that ID and not flagged read-only,
or the explicit add API. -/
def TblEv.introduces (id : Id) (key : List UInt8 × Nat) : TblEv → Prop
  | .recvQuery src i ro _ => i = some id ∧ src.key = key ∧ ro = false
  | .recvResponse src i ro _ => i = some id ∧ src.key = key ∧ ro = false
  | .apiAdd a i _ => i = id ∧ a.key = key
  | _ => False

/-- Events carry 20-byte IDs (the wire codec and `[20]byte` guarantee it). -/
def TblEv.wf : TblEv → Prop
  | .recvQuery _ id _ _ => ∀ i, id = some i → i.length = 20
  | .recvResponse _ id _ _ => ∀ i, id = some i → i.length = 20
  | .apiAdd _ id _ => id.length = 20
  | .pingFailed _ id => id.length = 20
  | .advance _ => True

/-- The same event with another resolution of the eviction choice. -/
def TblEv.withChoice (ch : Option Node) : TblEv → TblEv
  | .recvQuery s i r _ => .recvQuery s i r ch
  | .recvResponse s i r _ => .recvResponse s i r ch
  | .apiAdd a i _ => .apiAdd a i ch
  | e => e

theorem TblEv.wf.idOf {ev : TblEv} (h : ev.wf) : ∀ i, ev.idOf = some i → i.length = 20 := by
  cases ev with
  | recvQuery src id ro ch => exact h
  | recvResponse src id ro ch => exact h
  | apiAdd addr id ch => intro i hi; cases hi; exact h
  | pingFailed addr id => intro i hi; cases hi; exact h
  | advance d => intro i hi; cases hi

theorem TblState.step_map_some {c : TableCfg} {s s' : TblState} {out : AddOutcome} {addr : NAddr} {id : Option Id}
    {tryAdd : Bool} {upd : Node → Node} {ch : Option Node}
    (h : (updateNode c s.now s.table addr id tryAdd upd ch).map
        (fun r => (({ s with table := r.1 } : TblState), r.2)) = some (s', out)) :
    updateNode c s.now s.table addr id tryAdd upd ch = some (s'.table, out) := by
  obtain ⟨⟨t', o⟩, hu, hr⟩ := Option.map_eq_some_iff.mp h
  cases hr; exact hu

/-- Every step is `advance` (table untouched) or one `updateNode` call with a key-preserving update.
The call can add only the pair the event introduces (4th conjunct), and only a matched response sets `lastResp`. -/
theorem TblState.step_cases {c : TableCfg} {s s' : TblState} {ev : TblEv} {out : AddOutcome}
    (h : s.step c ev = some (s', out)) :
    (s'.table = s.table ∧ ∃ why, out = .unchanged why) ∨
    ∃ addr tryAdd upd ch, KeyPres upd ∧
      updateNode c s.now s.table addr ev.idOf tryAdd upd ch = some (s'.table, out) ∧
      (tryAdd = true → ∀ id, ev.idOf = some id → ev.introduces id addr.key) ∧
      ((∀ n, (upd n).lastResp = n.lastResp) ∨ ∃ src id ro ch, ev = .recvResponse src id ro ch) := by
  cases ev with
  | recvQuery src id ro ch =>
    exact .inr ⟨src, !ro, onQuery s.now, ch, keyPres_onQuery _, TblState.step_map_some h,
      fun hta i hi => ⟨hi, rfl, by simpa using hta⟩, .inl fun _ => rfl⟩
  | recvResponse src id ro ch =>
    exact .inr ⟨src, !ro, onResponse s.now, ch, keyPres_onResponse _, TblState.step_map_some h,
      fun hta i hi => ⟨hi, rfl, by simpa using hta⟩, .inr ⟨src, id, ro, ch, rfl⟩⟩
  | apiAdd addr id ch =>
    exact .inr ⟨addr, true, fun n => n, ch, keyPres_id, TblState.step_map_some h,
      fun _ i hi => ⟨Option.some.inj hi, rfl⟩, .inl fun _ => rfl⟩
  | pingFailed addr id =>
    exact .inr ⟨addr, false, onPingFailed, none, keyPres_onPingFailed, TblState.step_map_some h,
      fun hta => Bool.noConfusion hta, .inl fun _ => rfl⟩
  | advance d => cases h; exact .inl ⟨rfl, _, rfl⟩

theorem TblState.run_induction {c : TableCfg} {P : TblState → Prop} {evs : List TblEv} {s0 s : TblState}
    (h : TblState.run c s0 evs = some s) (h0 : P s0)
    (hstep : ∀ e ∈ evs, ∀ s1 s2 o, P s1 → s1.step c e = some (s2, o) → P s2) : P s := by
  revert h
  fun_induction TblState.run c s0 evs <;> intro h
  case case1 => cases h; exact h0
  case case2 => cases h
  case case3 s0 e es s1 o hs ih =>
    exact ih (hstep e List.mem_cons_self s0 s1 o h0 hs) (fun e' he' => hstep e' (List.mem_cons_of_mem _ he')) h

/-! ## A history that fills a bucket (k = 2) and performs a replacement, for the examples of Props/C05 and Props/C06 -/

namespace Demo

def root : Id := List.replicate 20 0
/-- IDs `00…0x`; for `x ∈ {4,…,7}` they share bucket 157 of `root`. -/
def idx (x : UInt8) : Id := List.replicate 19 0 ++ [x]
def cfg : TableCfg := { root := root, k := 2, window := 1000 }
def a (p : Nat) : NAddr := { ip := [1, 2, 3, 4], port := p }
def n4 : Node := { id := idx 4, addr := a 1, lastQuery := some 0 }
def n5 : Node := { id := idx 5, addr := a 2, lastQuery := some 0 }
def n6 : Node := { id := idx 6, addr := a 3, lastResp := some 5 }
/-- bucket 157 is full, neither entry has ever responded -/
def full : TblState := { now := 5, table := [n4, n5] }
def after : TblState := { now := 5, table := [n5, n6] }
/-- a matched response from a third ID of bucket 157; the map iteration meets `n4` first -/
def evResp : TblEv := .recvResponse (a 3) (some (idx 6)) false (some n4)
/-- a query from a fourth ID of bucket 157: not good, so nothing may be evicted for it -/
def evQuery7 : TblEv := .recvQuery (a 4) (some (idx 7)) false none
def hist : List TblEv := [
  .recvQuery (a 1) (some (idx 4)) false none,
  .recvQuery (a 2) (some (idx 5)) false none,
  .advance 5,
  evQuery7,
  evResp]

theorem hist_wf : ∀ e ∈ hist, e.wf := by
  simp only [hist, List.forall_mem_cons, List.not_mem_nil]
  refine ⟨?_, ?_, trivial, ?_, ?_, nofun⟩ <;> exact fun i hi => Option.some.inj hi ▸ rfl

theorem run_hist : (TblState.run cfg {} hist).map (·.table) = some [n5, n6] := by decide +kernel

end Demo

end Dht
