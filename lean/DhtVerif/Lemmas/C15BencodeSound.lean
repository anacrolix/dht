/-
Lemmas for C15: the strict parser accepts only canonical encodings of well-formed values.
-/
import DhtVerif.Lemmas.C15Bencode
namespace Dht
namespace Benc

theorem spanDigits_spec (s : List UInt8) :
    s = (spanDigits s).1 ++ (spanDigits s).2 ∧ (∀ c ∈ (spanDigits s).1, isDigit c = true) := by
  fun_induction spanDigits s
  case case2 c r h ih => -- a digit `c`, then what is spanned of the rest
    exact ⟨congrArg (c :: ·) ih.1, fun x hx => (List.mem_cons.mp hx).elim (· ▸ h) (ih.2 x)⟩
  all_goals simp

theorem digitVal_lt {c : UInt8} (h : isDigit c = true) : c.toNat - 48 < 10 := by
  simp only [isDigit, Bool.and_eq_true, decide_eq_true_eq] at h; omega

theorem digit_eq {c : UInt8} (h : isDigit c = true) {n : Nat} (hn : n % 10 = c.toNat - 48) : digit n = c := by
  simp only [isDigit, Bool.and_eq_true, decide_eq_true_eq] at h
  apply UInt8.toNat_inj.mp
  rw [digit_toNat, hn]
  omega

theorem digitsToNat_nil : digitsToNat [] = 0 := rfl

theorem natDigits_snoc {a : Nat} (ha : 0 < a) {d : UInt8} (hd : isDigit d = true) :
    natDigits (a * 10 + (d.toNat - 48)) = natDigits a ++ [d] := by
  have hv := digitVal_lt hd
  rw [natDigits_ge (by omega), digit_eq hd (Nat.mul_add_mod_of_lt hv), Nat.add_comm,
    Nat.add_mul_div_right _ _ (by decide), Nat.div_eq_of_lt hv, Nat.zero_add]

theorem natDigits_foldl (ds : List UInt8) (hd : ∀ c ∈ ds, isDigit c = true) (a : Nat) (ha : 0 < a) :
    natDigits (ds.foldl (fun a d => a * 10 + (d.toNat - 48)) a) = natDigits a ++ ds ∧
      0 < ds.foldl (fun a d => a * 10 + (d.toNat - 48)) a := by
  induction ds generalizing a with
  | nil => exact ⟨by simp, ha⟩
  | cons d t ih =>
    obtain ⟨h1, h2⟩ := ih (fun c hc => hd c (by simp [hc])) (a * 10 + (d.toNat - 48)) (by omega)
    refine ⟨?_, h2⟩
    rw [List.foldl_cons, h1, natDigits_snoc ha (hd d (by simp)), List.append_assoc]
    rfl

/-- Digits that may follow a `-` are the decimal form of their value, and that value is positive. -/
theorem natDigits_digitsToNat_pos (ds : List UInt8) (hd : ∀ x ∈ ds, isDigit x = true)
    (h0 : negDigitsOk ds = true) : natDigits (digitsToNat ds) = ds ∧ 0 < digitsToNat ds := by
  cases ds with
  | nil => cases h0
  | cons c t =>
    have hcd := hd c (by simp)
    have hv := digitVal_lt hcd
    have hpos : 0 < c.toNat - 48 := Nat.pos_of_ne_zero fun h =>
      bne_iff_ne.mp h0 (by rw [← digit_eq hcd (n := 0) (by omega)]; rfl)
    have := natDigits_foldl t (fun x hx => hd x (by simp [hx])) _ hpos
    rw [natDigits_lt hv, digit_eq hcd (Nat.mod_eq_of_lt hv)] at this
    simpa [digitsToNat] using this

theorem natDigits_digitsToNat (ds : List UInt8) (hd : ∀ c ∈ ds, isDigit c = true)
    (hc : canonDigits ds = true) : natDigits (digitsToNat ds) = ds := by
  match ds, hc with
  | [c], _ =>
    have hcd := hd c (by simp)
    have hv := digitVal_lt hcd
    simp only [digitsToNat, List.foldl_cons, List.foldl_nil, Nat.zero_mul, Nat.zero_add]
    rw [natDigits_lt hv, digit_eq hcd (Nat.mod_eq_of_lt hv)]
  -- of two digits or more `canonDigits` and `negDigitsOk` say the same: the first is not `0`
  | c :: d :: t, hc => exact (natDigits_digitsToNat_pos (c :: d :: t) hd hc).1

theorem decBytes_sound {s b rest : List UInt8} (h : decBytes s = some (b, rest)) :
    s = encBytes b ++ rest := by
  obtain ⟨hs, hd⟩ := spanDigits_spec s
  revert h
  fun_cases decBytes s <;> intro h
  case case1 p hc r n _ hn hp => -- canonical digits `p.1`, a colon, and all `n` bytes are there
    obtain ⟨rfl, rfl⟩ := Prod.mk.inj (Option.some.inj h)
    rw [encBytes, hn, natDigits_digitsToNat p.1 hd hc, List.append_assoc, List.cons_append,
      List.take_append_drop, ← hp]
    exact hs
  all_goals cases h

theorem decInt_sound (s : List UInt8) (v : BV) (rest : List UInt8) (h : decInt s = some (v, rest)) :
    ∃ i, v = .int i ∧ s = intDigits i ++ cE :: rest := by
  revert h
  -- of the branches of `decInt` two return a value; `p` is what `spanDigits` made of the input
  fun_cases decInt s <;> intro h <;> cases h
  · -- `-`, digits not starting with `0`, `e`
    rename_i r p hok hp
    obtain ⟨hs, hd⟩ := spanDigits_spec r
    obtain ⟨hnat, hpos⟩ := natDigits_digitsToNat_pos p.1 hd hok
    obtain ⟨n, hn⟩ := Nat.exists_eq_add_one.mpr hpos
    refine ⟨Int.negSucc n, by rw [hn]; rfl, congrArg (cMinus :: ·) ?_⟩
    rw [← hn, hnat, ← hp]
    exact hs
  · -- canonical digits, `e`
    rename_i c r _ p hc hp
    obtain ⟨hs, hd⟩ := spanDigits_spec (c :: r)
    refine ⟨(digitsToNat p.1 : Nat), rfl, ?_⟩
    show _ = natDigits (digitsToNat p.1) ++ _
    rw [natDigits_digitsToNat p.1 hd hc, ← hp]
    exact hs

theorem dec_sound_all (f : Nat) :
    (∀ bs v rest, dec f bs = some (v, rest) → bs = enc v ++ rest ∧ wf v = true) ∧
    (∀ prev bs d rest, decDict f prev bs = some (d, rest) →
      bs = encDict d ++ rest ∧ wfVals d = true ∧ keysChain prev (d.map Prod.fst) = true) ∧
    (∀ bs l rest, decList f bs = some (l, rest) → bs = encList l ++ rest ∧ wfList l = true) := by
  -- by induction on the fuel: each parser takes one step and calls the others with less
  induction f using Nat.strongRecOn with | ind f ih => ?_
  refine ⟨fun bs v rest => ?_, fun prev bs d rest => ?_, fun bs l rest => ?_⟩
  · fun_cases dec f bs <;> intro h
    case case3 f r => -- an integer
      obtain ⟨i, rfl, hr⟩ := decInt_sound r v rest h
      exact ⟨by rw [hr]; simp [enc], rfl⟩
    all_goals cases h
    · -- a list
      obtain ⟨h1, h2⟩ := (ih _ (Nat.lt_succ_self _)).2.2 _ _ _ ‹_›
      exact ⟨by rw [h1]; simp [enc], h2⟩
    · -- a dictionary
      obtain ⟨h1, h2, h3⟩ := (ih _ (Nat.lt_succ_self _)).2.1 _ _ _ _ ‹_›
      exact ⟨by rw [h1]; simp [enc], wf_dict.mpr ⟨keysChain_none_sorted _ h3, h2⟩⟩
    · -- a byte string
      have hb := decBytes_sound ‹_›
      exact ⟨by rw [hb]; simp [enc], rfl⟩
  · fun_cases decDict f prev bs <;> intro h <;> cases h
    · -- the closing `e`
      exact ⟨by simp [encDict], rfl, rfl⟩
    · -- a key after `prev`, its value, and the rest
      obtain ⟨h1, h2⟩ := (ih _ (Nat.lt_succ_self _)).1 _ _ _ ‹_›
      obtain ⟨h3, h4, h5⟩ := (ih _ (Nat.lt_succ_self _)).2.1 _ _ _ _ ‹_›
      refine ⟨?_, wfVals_cons.mpr ⟨h2, h4⟩, by simp [keysChain, ‹keyAfter _ _ = true›, h5]⟩
      have hb := decBytes_sound ‹_›
      rw [hb, h1, h3]
      simp [encDict]
  · fun_cases decList f bs <;> intro h <;> cases h
    · -- the closing `e`
      exact ⟨by simp [encList], rfl⟩
    · -- a value and the rest
      obtain ⟨h1, h2⟩ := (ih _ (Nat.lt_succ_self _)).1 _ _ _ ‹_›
      obtain ⟨h3, h4⟩ := (ih _ (Nat.lt_succ_self _)).2.2 _ _ _ ‹_›
      exact ⟨by rw [h1, h3]; simp [encList], wfList_cons.mpr ⟨h2, h4⟩⟩

end Benc
end Dht
