/- C20, the bucket in the finite positive-rate regime: every step of a bucket history has one
of four shapes (`BHist.Shape`); the books (`Ledger`), the window invariant (`Paced`, `PG`) and the cap are kept
by the shapes. -/
import DhtVerif.Model.Rate
import DhtVerif.Lemmas.C20Ledger
namespace Dht

/-- Finite rate (`0 < p` is a hypothesis of its own where it is needed), configuration `(p, q, burst)` as at creation at `t0`, clock sane. -/
structure BHist.WF (p q burst t0 : Nat) (s : BHist) : Prop where
  ninf : s.b.inf = false
  hp : s.b.p = p
  hq : s.b.q = q
  hburst : s.b.burst = burst
  t0_le : t0 ≤ s.b.last
  last_le : s.b.last ≤ s.now

theorem Bucket.tokensAt_eq {b : Bucket} {now : Nat} (h : b.last ≤ now) :
    b.tokensAt now = min (b.cap : Int) (b.tokens + ((b.p * now : Nat) : Int) - ((b.p * b.last : Nat) : Int)) := by
  unfold Bucket.tokensAt Bucket.lastAt
  rw [Nat.min_eq_left h, Nat.mul_sub, Int.ofNat_sub (Nat.mul_le_mul_left b.p h), Int.add_sub_assoc]

theorem Bucket.lastAt_eq {b : Bucket} {now : Nat} (h : b.last ≤ now) : b.lastAt now = b.last := by
  unfold Bucket.lastAt; omega

theorem Bucket.allow_ok {b : Bucket} {now : Nat} (hinf : b.inf = false) (hp : 0 < b.p)
    (h : 1 ≤ b.burst ∧ 0 ≤ b.tokensAt now - (b.unit : Int)) :
    b.allow now = (true, { b with tokens := b.tokensAt now - (b.unit : Int), last := now }) := by
  unfold Bucket.allow
  rw [if_neg (by simp [hinf]), if_neg (by omega), if_pos h]

theorem Bucket.allow_no {b : Bucket} {now : Nat} (hinf : b.inf = false) (hp : 0 < b.p) (hl : b.last ≤ now)
    (h : ¬(1 ≤ b.burst ∧ 0 ≤ b.tokensAt now - (b.unit : Int))) : b.allow now = (false, b) := by
  unfold Bucket.allow
  rw [if_neg (by simp [hinf]), if_neg (by omega), if_neg h, Bucket.lastAt_eq hl]

theorem Bucket.reserve_ok {b : Bucket} {now : Nat} (hinf : b.inf = false) (hp : 0 < b.p) (h : 1 ≤ b.burst) :
    b.reserve now none = (some (now + ceilDiv (b.deficit now) b.p),
      { b with tokens := b.tokensAt now - (b.unit : Int), last := now }) := by
  unfold Bucket.reserve
  rw [if_neg (by simp [hinf]), if_neg (by omega), if_pos ⟨h, rfl⟩]

theorem Bucket.reserve_no {b : Bucket} {now : Nat} (m : Option Nat) (hinf : b.inf = false) (hp : 0 < b.p) (hl : b.last ≤ now)
    (h : ¬ 1 ≤ b.burst) : b.reserve now m = (none, b) := by
  unfold Bucket.reserve
  rw [if_neg (by simp [hinf]), if_neg (by omega), if_neg (fun hh => h hh.1), Bucket.lastAt_eq hl]

theorem Bucket.giveBack_ok {b : Bucket} {now : Nat} (hinf : b.inf = false) (hp : 0 < b.p)
    (h : 0 ≤ b.tokensAt now + (b.unit : Int)) :
    b.giveBack now = (true, { b with tokens := b.tokensAt now + (b.unit : Int), last := now }) := by
  unfold Bucket.giveBack
  rw [if_neg (by simp [hinf]), if_neg (by omega), if_pos h]

theorem Bucket.giveBack_no {b : Bucket} {now : Nat} (hinf : b.inf = false) (hp : 0 < b.p) (hl : b.last ≤ now)
    (h : ¬ 0 ≤ b.tokensAt now + (b.unit : Int)) : b.giveBack now = (false, b) := by
  unfold Bucket.giveBack
  rw [if_neg (by simp [hinf]), if_neg (by omega), if_neg h, Bucket.lastAt_eq hl]

theorem BHist.step_adv (s : BHist) (dt : Nat) : s.step (.adv dt) = { s with now := s.now + dt } := rfl

theorem BHist.step_reserve_ok (s : BHist) (hinf : s.b.inf = false) (hp : 0 < s.b.p) (h : 1 ≤ s.b.burst) :
    s.step .reserve = { s with b := { s.b with tokens := s.b.tokensAt s.now - (s.b.unit : Int), last := s.now },
                               grants := s.b.actScaled s.now :: s.grants } := by
  simp [BHist.step, Bucket.reserve_ok hinf hp h]

inductive BHist.Shape (s : BHist) : BHist → Prop where
  | adv (dt : Nat) : Shape s { s with now := s.now + dt }
  | same : Shape s s
  | take (h : 1 ≤ s.b.burst) :
      Shape s { s with b := { s.b with tokens := s.b.tokensAt s.now - (s.b.unit : Int), last := s.now },
                       grants := s.b.actScaled s.now :: s.grants }
  | give (h : 0 ≤ s.b.tokensAt s.now + (s.b.unit : Int)) :
      Shape s { s with b := { s.b with tokens := s.b.tokensAt s.now + (s.b.unit : Int), last := s.now },
                       returned := s.returned + 1 }

theorem BHist.step_shape (s : BHist) (e : BEv) (hinf : s.b.inf = false) (hp : 0 < s.b.p) (hl : s.b.last ≤ s.now) :
    BHist.Shape s (s.step e) := by
  cases e with
  | adv dt => exact .adv dt
  | allow =>
    by_cases h : 1 ≤ s.b.burst ∧ 0 ≤ s.b.tokensAt s.now - (s.b.unit : Int)
    · simp only [BHist.step, Bucket.allow_ok hinf hp h, if_true]; exact .take h.1
    · simp only [BHist.step, Bucket.allow_no hinf hp hl h]; exact .same
  | reserve =>
    by_cases h : 1 ≤ s.b.burst
    · rw [BHist.step_reserve_ok s hinf hp h]; exact .take h
    · simp only [BHist.step, Bucket.reserve_no none hinf hp hl h]; exact .same
  | giveBack =>
    by_cases h : 0 ≤ s.b.tokensAt s.now + (s.b.unit : Int)
    · simp only [BHist.step, Bucket.giveBack_ok hinf hp h, if_true]; exact .give h
    · simp only [BHist.step, Bucket.giveBack_no hinf hp hl h]; exact .same

theorem BHist.WF.shape {p q burst t0 : Nat} {s s' : BHist} (w : s.WF p q burst t0) (h : BHist.Shape s s') :
    s'.WF p q burst t0 := by
  cases h with
  | adv dt => exact { w with last_le := Nat.le_trans w.last_le (Nat.le_add_right _ _) }
  | same => exact w
  | take | give => exact { w with t0_le := Nat.le_trans w.t0_le w.last_le, last_le := Nat.le_refl _ }

theorem BHist.WF.init (p q burst t0 : Nat) : (BHist.init p q burst t0).WF p q burst t0 :=
  ⟨rfl, rfl, rfl, rfl, Nat.le_refl _, Nat.le_refl _⟩

theorem BHist.run_append (s : BHist) (h₁ h₂ : List BEv) : s.run (h₁ ++ h₂) = (s.run h₁).run h₂ := by
  simp [BHist.run, List.foldl_append]

theorem BHist.run_cons (s : BHist) (e : BEv) (h : List BEv) : s.run (e :: h) = (s.step e).run h := rfl

theorem BHist.induct {p q burst t0 : Nat} (hp : 0 < p) (I : BHist → Prop)
    (hstep : ∀ s s', s.WF p q burst t0 → I s → BHist.Shape s s' → I s') (h : List BEv) :
    ∀ {s : BHist}, s.WF p q burst t0 → I s → (s.run h).WF p q burst t0 ∧ I (s.run h) := by
  induction h with
  | nil => intro s w i; exact ⟨w, i⟩
  | cons e h ih =>
    intro s w i
    have sh := BHist.step_shape s e w.ninf (w.hp ▸ hp) w.last_le
    exact ih (w.shape sh) (hstep s _ w i sh)

theorem BHist.WF.run {p q burst t0 : Nat} (hp : 0 < p) (h : List BEv) {s : BHist} (w : s.WF p q burst t0) :
    (s.run h).WF p q burst t0 :=
  (BHist.induct hp (fun _ => True) (fun _ _ _ _ _ => trivial) h w trivial).1

theorem Bucket.tokensAt_le_cap (b : Bucket) (now : Nat) : b.tokensAt now ≤ (b.cap : Int) := by
  unfold Bucket.tokensAt; omega

theorem Bucket.tokensAt_le {b : Bucket} {now : Nat} (h : b.last ≤ now) :
    b.tokensAt now ≤ b.tokens + ((b.p * now : Nat) : Int) - ((b.p * b.last : Nat) : Int) := by
  rw [Bucket.tokensAt_eq h]
  omega

/-- The books of a bucket history: every grant counts, nothing is wasted. -/
def BHist.Led (t0 : Nat) (s : BHist) : Prop :=
  Ledger s.b.unit s.b.cap s.b.p t0 s.b.tokens s.b.last s.now s.grants s.returned 0

theorem BHist.Led.shape {p q burst t0 : Nat} (s s' : BHist) (w : s.WF p q burst t0) (l : s.Led t0)
    (sh : BHist.Shape s s') : s'.Led t0 := by
  have hT := Bucket.tokensAt_eq w.last_le
  cases sh with
  | adv dt => exact l.adv (Nat.le_add_right _ _)
  | same => exact l
  | take _ => exact (l.advance w.last_le hT).take
  | give _ => exact (l.advance w.last_le hT).give

/-- How many of the grants `l` (the scaled instants at which they are covered, as in `BHist.grants`) are due at or
after `A`. -/
def cntFrom (A : Nat) (l : List Nat) : Nat := l.countP (fun g => decide (A ≤ g))

theorem cntFrom_cons (A g : Nat) (l : List Nat) : cntFrom A (g :: l) = cntFrom A l + if A ≤ g then 1 else 0 := by
  simp only [cntFrom, List.countP_cons, decide_eq_true_eq]

/-- The window bound grant by grant ("per grant"). `U` units per token, `A` the scaled instant at which the windows start, `K` the budget there (`cap + unit·returned`),
the list as in `BHist.grants`, newest first. Each grant `g` at or after `A` found `K + (g − A)` sufficient for itself and
all earlier grants at or after `A`; `PG.window` reads the bound for `[A, B]` off it. -/
def PG (U A K : Nat) : List Nat → Prop
  | [] => True
  | g :: rest => (A ≤ g → U * cntFrom A (g :: rest) ≤ K + (g - A)) ∧ PG U A K rest

theorem PG.mono {U A K K' : Nat} (hK : K ≤ K') : ∀ {l : List Nat}, PG U A K l → PG U A K' l
  | [], _ => trivial
  | _ :: _, ⟨h1, h2⟩ => ⟨fun h => Nat.le_trans (h1 h) (by omega), PG.mono hK h2⟩

theorem PG.window {U A K B : Nat} (hAB : A ≤ B) : ∀ {l : List Nat}, PG U A K l →
    U * l.countP (fun g => decide (A ≤ g) && decide (g ≤ B)) ≤ K + (B - A)
  | [], _ => by simp
  | g :: rest, ⟨h1, h2⟩ => by
    by_cases hg : A ≤ g ∧ g ≤ B
    · -- the grants in the window are among those from `A` on, which `g` found within `K + (g − A)`
      have hle : (g :: rest).countP (fun g => decide (A ≤ g) && decide (g ≤ B)) ≤ cntFrom A (g :: rest) :=
        List.countP_mono_left fun x _ hx => by
          simp only [Bool.and_eq_true, decide_eq_true_eq] at hx ⊢; exact hx.1
      exact Nat.le_trans (Nat.mul_le_mul_left U hle) (Nat.le_trans (h1 hg.1) (by omega))
    · rw [List.countP_cons_of_neg (by simpa using hg)]
      exact PG.window hAB h2

/-- `Paced U S l` (`U` units per token, `l` as in `BHist.grants`, newest first): counting from any grant on, one token
per grant fits below `S`.
With `S = cap + unit·returned + (p·last − tokens)`, the bucket's zero instant plus what it may lend,
this says that the zero instant has moved on by a token for every grant since; it does not mention
the window, and is what makes `PG` inductive. -/
def Paced (U : Nat) : Int → List Nat → Prop
  | _, [] => True
  | S, g :: rest => (U : Int) + g ≤ S ∧ Paced U (S - U) rest

theorem Paced.mono {U : Nat} : ∀ {l : List Nat} {S S' : Int}, S ≤ S' → Paced U S l → Paced U S' l
  | [], _, _, _, _ => trivial
  | _ :: _, _, _, h, ⟨h1, h2⟩ => ⟨Int.le_trans h1 h, Paced.mono (Int.sub_le_sub_right h _) h2⟩

theorem Paced.count_from {U : Nat} (A : Nat) : ∀ {l : List Nat} {S : Int}, Paced U S l →
    U * cntFrom A l ≤ (S - A).toNat
  | [], _, _ => by simp [cntFrom]
  | g :: rest, S, ⟨h1, h2⟩ => by
    have ih := Paced.count_from A h2
    rw [cntFrom_cons, Nat.mul_add]
    split <;> omega

/-- The invariant for the windows `[A, B]` of scaled time, in numbers (as `Ledger`: `U` units per token, size `C`, `tok`
units stored at `last`, grants `L`, `R` tokens given back). `paced`, with `S` the bucket's zero instant `p·last − tok` plus
what it may lend, carries the induction; `pg` is what it yields for `A`, and `PG.window` reads the bound for each `B` off
that. `take` is stated at `last = now`, the state `advance` leaves. -/
structure Pacing (U C p A : Nat) (tok : Int) (last : Nat) (L : List Nat) (R : Nat) : Prop where
  paced : Paced U ((C : Int) + ((U * R : Nat) : Int) + ((p * last : Nat) : Int) - tok) L
  pg : PG U A (C + U * R) L

namespace Pacing
variable {U C p A : Nat} {tok T : Int} {last now : Nat} {L : List Nat} {R : Nat}

theorem advance (i : Pacing U C p A tok last L R) (hT : T ≤ tok + ((p * now : Nat) : Int) - ((p * last : Nat) : Int)) :
    Pacing U C p A T now L R :=
  ⟨i.paced.mono (by omega), i.pg⟩

theorem take (i : Pacing U C p A tok now L R) (hUC : U ≤ C) (hC : tok ≤ (C : Int)) :
    Pacing U C p A (tok - U) now ((p * now + ((U : Int) - tok).toNat) :: L) R := by
  refine ⟨⟨?_, i.paced.mono ?_⟩, fun hA => ?_, i.pg⟩
  · omega
  · omega
  · have hc := i.paced.count_from A
    rw [cntFrom_cons, if_pos hA, Nat.mul_succ]
    omega

theorem give (i : Pacing U C p A tok last L R) : Pacing U C p A (tok + U) last L (R + 1) := by
  refine ⟨i.paced.mono ?_, PG.mono (Nat.add_le_add_left (Nat.mul_le_mul_left _ (Nat.le_succ _)) _) i.pg⟩
  rw [Nat.mul_succ]; omega

end Pacing

def BHist.Window (A : Nat) (s : BHist) : Prop :=
  Pacing s.b.unit s.b.cap s.b.p A s.b.tokens s.b.last s.grants s.returned

theorem BHist.Window.shape {p q burst t0 : Nat} (A : Nat) (s s' : BHist) (w : s.WF p q burst t0) (i : s.Window A)
    (sh : BHist.Shape s s') : s'.Window A := by
  have ht := Bucket.tokensAt_le w.last_le
  cases sh with
  | adv | same => exact i
  | take hb => exact (i.advance ht).take (Nat.le_mul_of_pos_left _ hb) (s.b.tokensAt_le_cap s.now)
  | give => exact (i.advance ht).give

theorem BHist.led_run {p q burst t0 : Nat} (hp : 0 < p) (h : List BEv) :
    ((BHist.init p q burst t0).run h).WF p q burst t0 ∧ ((BHist.init p q burst t0).run h).Led t0 :=
  BHist.induct hp (BHist.Led t0) BHist.Led.shape h (BHist.WF.init p q burst t0) Ledger.init

theorem BHist.window_run {p q burst t0 : Nat} (hp : 0 < p) (A : Nat) (h : List BEv) :
    ((BHist.init p q burst t0).run h).WF p q burst t0 ∧ ((BHist.init p q burst t0).run h).Window A :=
  BHist.induct hp (BHist.Window A) (BHist.Window.shape A) h (BHist.WF.init p q burst t0) ⟨trivial, trivial⟩

/-- stored tokens never exceed the bucket size by more than the one token a give-back adds -/
def BHist.Capped (s : BHist) : Prop := s.b.tokens ≤ (s.b.cap : Int) + (s.b.unit : Int)

theorem BHist.capped_run {p q burst t0 : Nat} (hp : 0 < p) (h : List BEv) :
    ((BHist.init p q burst t0).run h).WF p q burst t0 ∧ ((BHist.init p q burst t0).run h).Capped :=
  BHist.induct hp BHist.Capped (fun s s' _ i sh => by
      have ht := s.b.tokensAt_le_cap s.now
      cases sh with
      | adv | same => exact i
      | take => show s.b.tokensAt s.now - (s.b.unit : Int) ≤ (s.b.cap : Int) + (s.b.unit : Int); omega
      | give => show s.b.tokensAt s.now + (s.b.unit : Int) ≤ (s.b.cap : Int) + (s.b.unit : Int); omega) h
    (BHist.WF.init p q burst t0) (Int.le_add_of_nonneg_right (Int.natCast_nonneg _))

theorem le_mul_ceilDiv (d p : Nat) (hp : 0 < p) : d ≤ p * ceilDiv d p := by
  unfold ceilDiv
  have h1 := Nat.div_add_mod (d + (p - 1)) p
  have h2 := Nat.mod_lt (d + (p - 1)) hp
  omega

theorem ceilDiv_least (d p n : Nat) (hp : 0 < p) (h : d ≤ p * n) : ceilDiv d p ≤ n := by
  unfold ceilDiv
  apply Nat.le_of_lt_succ
  rw [Nat.div_lt_iff_lt_mul hp, Nat.succ_mul, Nat.mul_comm n p]
  omega

theorem mul_ceilDiv_lt (d p : Nat) (hp : 0 < p) : p * ceilDiv d p < d + p := by
  unfold ceilDiv
  have := Nat.mul_div_le (d + (p - 1)) p
  omega

/-- At the slot a reservation reports, `now + ⌈deficit / p⌉`, its token is covered (`Bucket.slot_lt`: and not a whole
nanosecond earlier). -/
theorem Bucket.actScaled_le_slot (b : Bucket) (now : Nat) (hp : 0 < b.p) :
    b.actScaled now ≤ b.p * (now + ceilDiv (b.deficit now) b.p) := by
  have := le_mul_ceilDiv (b.deficit now) b.p hp
  rw [Bucket.actScaled, Nat.mul_add]; omega

theorem Bucket.slot_lt (b : Bucket) (now : Nat) (hp : 0 < b.p) :
    b.p * (now + ceilDiv (b.deficit now) b.p) < b.actScaled now + b.p := by
  have := mul_ceilDiv_lt (b.deficit now) b.p hp
  rw [Bucket.actScaled, Nat.mul_add]; omega

theorem Bucket.deficit_zero_of_allow (b : Bucket) (now : Nat) (h : 0 ≤ b.tokensAt now - (b.unit : Int)) :
    b.deficit now = 0 := by
  unfold Bucket.deficit; omega

end Dht
