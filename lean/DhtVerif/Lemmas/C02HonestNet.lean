/- The K closest nodes of a finite network. -/
import DhtVerif.Lemmas.C02HonestDefs
import DhtVerif.Lemmas.C02
namespace Dht

theorem Addr.strKey_of_valid (a : Addr) (h : a.rank ≠ 0) : a.strKey = a := by
  unfold Addr.strKey; simp [h]

/-! ### the network sorted by distance (insertion sort); the statements of Props/C02Honest speak of `sortByDist` -/

def insertByDist (t : Id) (n : NetNode) : List NetNode → List NetNode
  | [] => [n]
  | x :: xs => if netDist t n ≤ netDist t x then n :: x :: xs else x :: insertByDist t n xs

def sortByDist (t : Id) (net : List NetNode) : List NetNode := net.foldr (insertByDist t) []

theorem insertByDist_perm (t : Id) (n : NetNode) (l : List NetNode) : (insertByDist t n l).Perm (n :: l) := by
  -- case1: the empty list; case2: `n` goes in front; case3: `n` goes behind the head
  fun_induction insertByDist t n l with
  | case1 | case2 => exact .refl _
  | case3 x xs _ ih => exact (ih.cons x).trans (.swap n x xs)

theorem sortByDist_perm (t : Id) (net : List NetNode) : (sortByDist t net).Perm net := by
  induction net with
  | nil => exact .refl _
  | cons y ys ih => exact (insertByDist_perm t y _).trans (ih.cons y)

theorem pairwise_insertByDist (t : Id) (n : NetNode) (l : List NetNode)
    (h : l.Pairwise (fun a b => netDist t a ≤ netDist t b)) :
    (insertByDist t n l).Pairwise (fun a b => netDist t a ≤ netDist t b) := by
  fun_induction insertByDist t n l with
  | case1 => exact List.pairwise_singleton _ _
  | case2 y ys hle =>
    refine List.pairwise_cons.mpr ⟨fun z hz => ?_, h⟩
    rcases List.mem_cons.mp hz with rfl | hz
    · exact hle
    · exact Nat.le_trans hle ((List.pairwise_cons.mp h).1 z hz)
  | case3 y ys hle ih =>
    have h' := List.pairwise_cons.mp h
    refine List.pairwise_cons.mpr ⟨fun z hz => ?_, ih h'.2⟩
    rcases List.mem_cons.mp ((insertByDist_perm t n ys).mem_iff.mp hz) with rfl | hz
    · omega
    · exact h'.1 z hz

theorem pairwise_sortByDist (t : Id) (net : List NetNode) :
    (sortByDist t net).Pairwise (fun a b => netDist t a ≤ netDist t b) := by
  induction net with
  | nil => simp [sortByDist]
  | cons y ys ih => exact pairwise_insertByDist t y _ ih

theorem NetWF.nodup {net : List NetNode} (h : NetWF net) : net.Nodup :=
  List.Pairwise.of_map (·.1) (fun _ _ hab heq => hab (congrArg _ heq)) h.idNodup

theorem NetWF.eq_of_dist {net : List NetNode} (h : NetWF net) (t : Id) (ht : t.length = 20)
    (x y : NetNode) (hx : x ∈ net) (hy : y ∈ net) (e : netDist t x = netDist t y) : x = y := by
  apply nodup_map_inj (·.1) h.idNodup hx hy
  have hlx := h.idLen x hx
  have hly := h.idLen y hy
  apply Id.xor_right_cancel t x.1 y.1 (hlx.trans ht.symm) (hly.trans ht.symm)
  apply Id.toNat_injective _ _ _ e
  rw [Id.distance_length _ _ hlx ht, Id.distance_length _ _ hly ht]

theorem mem_kClosest {t : Id} {k : Nat} {net : List NetNode} {n : NetNode} :
    n ∈ kClosest t k net ↔ n ∈ net ∧ (closerNodes t net n).length < k := by
  simp [kClosest]

theorem mem_closerNodes {t : Id} {net : List NetNode} {n m : NetNode} :
    m ∈ closerNodes t net n ↔ m ∈ net ∧ netDist t m < netDist t n := by
  simp [closerNodes]

theorem kClosest_sub {t : Id} {k : Nat} {net : List NetNode} : ∀ n ∈ kClosest t k net, n ∈ net :=
  fun _ hn => (mem_kClosest.mp hn).1

theorem kClosest_nodup (t : Id) (k : Nat) (net : List NetNode) (h : net.Nodup) :
    (kClosest t k net).Nodup := h.sublist List.filter_sublist

theorem kClosest_closer_lt (t : Id) (k : Nat) (net : List NetNode) (n : NetNode)
    (hn : n ∈ kClosest t k net) (L : List NetNode) (hnd : L.Nodup)
    (hL : ∀ m ∈ L, m ∈ net ∧ netDist t m < netDist t n) : L.length < k := by
  have h1 := (mem_kClosest.mp hn).2
  have h2 := hnd.length_le_of_subset (fun m hm => mem_closerNodes.mpr (hL m hm))
  omega

theorem strict_of_sorted_nodup {net : List NetNode} (hwf : NetWF net) (t : Id) (ht : t.length = 20)
    (l : List NetNode) (hsub : ∀ x ∈ l, x ∈ net) (hnd : l.Nodup)
    (hs : l.Pairwise (fun a b => netDist t a ≤ netDist t b)) :
    l.Pairwise (fun a b => netDist t a < netDist t b) := by
  unfold List.Nodup at hnd
  refine (hs.and hnd).imp_of_mem ?_
  intro a b ha hb ⟨hle, hne⟩
  have : netDist t a ≠ netDist t b := fun e => hne (hwf.eq_of_dist t ht a b (hsub a ha) (hsub b hb) e)
  omega

theorem kClosest_perm (t : Id) (k : Nat) {l l' : List NetNode} (h : l.Perm l') :
    (kClosest t k l).Perm (kClosest t k l') := by
  unfold kClosest closerNodes
  rw [List.filter_congr (q := fun n => decide ((l'.filter (fun m => decide (netDist t m < netDist t n))).length < k))
    (fun n _ => by rw [(h.filter _).length_eq])]
  exact h.filter _

theorem kClosest_of_sorted (t : Id) (k : Nat) (l : List NetNode)
    (h : l.Pairwise (fun a b => netDist t a < netDist t b)) : kClosest t k l = l.take k := by
  induction l generalizing k with
  | nil => simp [kClosest]
  | cons x xs ih =>
    have h' := List.pairwise_cons.mp h
    cases k with
    | zero => simp [kClosest]
    | succ k =>
      -- nothing is closer than the head; the head is closer than everything behind it
      have hx : closerNodes t (x :: xs) x = [] := by
        simp only [closerNodes, List.filter_eq_nil_iff, List.mem_cons, decide_eq_true_eq]
        rintro m (rfl | hm)
        · omega
        · have := h'.1 m hm; omega
      have hxs : ∀ n ∈ xs, closerNodes t (x :: xs) n = x :: closerNodes t xs n := by
        intro n hn
        simp [closerNodes, h'.1 n hn]
      rw [List.take_succ_cons, ← ih k h'.2]
      unfold kClosest
      rw [List.filter_cons_of_pos (by simp [hx])]
      refine congrArg (x :: ·) (List.filter_congr fun n hn => ?_)
      rw [hxs n hn]
      simp

theorem kClosest_perm_take {net : List NetNode} (h : NetWF net) (t : Id) (ht : t.length = 20) (k : Nat) :
    (kClosest t k net).Perm ((sortByDist t net).take k) := by
  have hperm := sortByDist_perm t net
  rw [← kClosest_of_sorted t k _ (strict_of_sorted_nodup h t ht _ (fun x hx => hperm.mem_iff.mp hx)
    (hperm.nodup_iff.mpr h.nodup) (pairwise_sortByDist t net))]
  exact kClosest_perm t k hperm.symm

theorem mem_kClosest_iff_take {net : List NetNode} (h : NetWF net) (t : Id) (ht : t.length = 20)
    (k : Nat) (n : NetNode) : n ∈ kClosest t k net ↔ n ∈ (sortByDist t net).take k :=
  (kClosest_perm_take h t ht k).mem_iff

theorem kClosest_length {net : List NetNode} (h : NetWF net) (t : Id) (ht : t.length = 20) (k : Nat) :
    (kClosest t k net).length = min k net.length := by
  rw [(kClosest_perm_take h t ht k).length_eq, List.length_take, (sortByDist_perm t net).length_eq]

end Dht
