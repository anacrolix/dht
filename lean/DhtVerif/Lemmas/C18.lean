import DhtVerif.Model.Containers
import DhtVerif.Lemmas.C18Id
import DhtVerif.Lemmas.C18Bits
import DhtVerif.Lemmas.C18Order
import DhtVerif.Lemmas.C18Knn
