/- Txn: `uvarint` is injective and fits `maxVarintLen64` bytes below 2^64; `Txns.inbound` and `Txns.register` as
equations; the dispatcher invariant `Txns.Inv`. -/
import DhtVerif.Model.Txn
import DhtVerif.Lemmas.Basic
namespace Dht

theorem uvarint_inj : ∀ (m n : Nat), uvarint m = uvarint n → m = n := by
  intro m n
  fun_induction uvarint m generalizing n <;> fun_cases uvarint n <;> intro h
  -- the first bytes agree: the same low seven bits and the same continuation flag
  all_goals have h1 := toUInt8_inj_of_lt (by omega) (by omega) (List.cons.inj h).1
  · exact h1
  · omega
  · omega
  next ih _ =>
    have h2 := ih _ (List.cons.inj h).2
    omega

theorem uvarint_length_le (k : Nat) : ∀ n, n < 128 ^ (k + 1) → (uvarint n).length ≤ k + 1 := by
  intro n
  fun_induction uvarint n generalizing k with
  | case1 => exact fun _ => Nat.le_add_left 1 k
  | case2 n hn ih =>
    intro h
    cases k with
    | zero => exact absurd h hn
    | succ k => exact Nat.succ_le_succ (ih k ((Nat.div_lt_iff_lt_mul (by decide)).mpr (by rwa [Nat.pow_succ] at h)))

/-- `binary.MaxVarintLen64`: the size of `varintIdIssuer.buf`; `PutUvarint` panics on a shorter buffer. -/
def maxVarintLen64 : Nat := 10

theorem uvarint_fits (n : Nat) (h : n < 2 ^ 64) : (uvarint n).length ≤ maxVarintLen64 := by
  have : n < 128 ^ (9 + 1) := by
    have : (2 : Nat) ^ 64 ≤ 128 ^ 10 := by decide
    omega
  exact uvarint_length_le 9 n this

theorem Txns.inbound_eq (s : Txns) (src t : List UInt8) :
    s.inbound src t = ((s.lookup ⟨t, src⟩).elim s fun _ => s.deregister ⟨t, src⟩, s.lookup ⟨t, src⟩) := by
  unfold Txns.inbound
  dsimp only
  cases s.lookup ⟨t, src⟩ <;> rfl

theorem Txns.register_eq_some_iff {s : Txns} {q : Nat} {dst : List UInt8} {r : Txns × TxnKey} :
    s.register q dst = some r ↔ s.have ⟨uvarint s.next, dst⟩ = false ∧
      r = ({ next := s.next + 1, pending := s.pending ++ [(⟨uvarint s.next, dst⟩, q)] }, ⟨uvarint s.next, dst⟩) := by
  unfold Txns.register
  dsimp only
  cases s.have ⟨uvarint s.next, dst⟩ <;> simp [eq_comm (a := r)]

def Txns.Inv (s : Txns) : Prop :=
  (∀ e ∈ s.pending, ∃ i, i < s.next ∧ e.1.t = uvarint i) ∧
    s.pending.Pairwise (fun a b => a.1.t ≠ b.1.t)

theorem Txns.inv_empty : Txns.Inv {} := by
  constructor
  · intro e he; cases he
  · exact List.Pairwise.nil

theorem Txns.inv_filter (s : Txns) (p : TxnKey × Nat → Bool) (h : s.Inv) :
    Txns.Inv { s with pending := s.pending.filter p } := by
  constructor
  · intro e he
    exact h.1 e (List.mem_filter.mp he).1
  · exact h.2.sublist List.filter_sublist

theorem Txns.have_fresh (s : Txns) (dst : List UInt8) (h : s.Inv) :
    s.have ⟨uvarint s.next, dst⟩ = false := by
  unfold Txns.have
  rw [List.any_eq_false]
  intro e he heq
  obtain ⟨i, hi, hti⟩ := h.1 e he
  have : e.1 = ⟨uvarint s.next, dst⟩ := by simpa using heq
  rw [this] at hti
  have := uvarint_inj _ _ hti
  omega

theorem Txns.register_inv (s : Txns) (q : Nat) (dst : List UInt8) (h : s.Inv) :
    ∃ r, s.register q dst = some r ∧ r.1.Inv := by
  refine ⟨_, Txns.register_eq_some_iff.mpr ⟨Txns.have_fresh s dst h, rfl⟩, ?_, ?_⟩
  · intro e he
    simp only [List.mem_append, List.mem_singleton] at he
    rcases he with he | he
    · obtain ⟨i, hi, hti⟩ := h.1 e he
      exact ⟨i, by simp only; omega, hti⟩
    · exact ⟨s.next, by simp only; omega, by rw [he]⟩
  · simp only
    rw [List.pairwise_append]
    refine ⟨h.2, List.pairwise_singleton _ _, ?_⟩
    intro a ha b hb
    simp only [List.mem_singleton] at hb
    obtain ⟨i, hi, hti⟩ := h.1 a ha
    rw [hb, hti]
    intro heq
    have := uvarint_inj _ _ heq
    omega

theorem Txns.inbound_inv (s : Txns) (src t : List UInt8) (h : s.Inv) :
    (s.inbound src t).1.Inv := by
  rw [Txns.inbound_eq]
  cases s.lookup ⟨t, src⟩
  · exact h
  · exact Txns.inv_filter s _ h

theorem Txns.step_inv (s : Txns) (e : TxnEv) (h : s.Inv) :
    ∃ r, s.step e = some r ∧ r.1.Inv := by
  cases e with
  | register q dst =>
    obtain ⟨r, hr, hinv⟩ := Txns.register_inv s q dst h
    exact ⟨(r.1, none), by simp [Txns.step, hr], hinv⟩
  | inbound src t => exact ⟨_, rfl, Txns.inbound_inv s src t h⟩
  | deregister k => exact ⟨_, rfl, Txns.inv_filter s _ h⟩

theorem Txns.run_inv : ∀ (evs : List TxnEv) (s : Txns), s.Inv →
    ∃ s', Txns.run s evs = some s' ∧ s'.Inv := by
  intro evs
  induction evs with
  | nil => exact fun s h => ⟨s, rfl, h⟩
  | cons e es ih =>
    intro s h
    obtain ⟨⟨s1, o⟩, hr, hinv⟩ := Txns.step_inv s e h
    rw [Txns.run, hr]
    exact ih s1 hinv

theorem Txns.lookup_eq_none_of_have (s : Txns) (k : TxnKey) (h : s.have k = false) :
    s.lookup k = none := by
  unfold Txns.have at h
  unfold Txns.lookup
  rw [List.any_eq_false] at h
  simp only [Option.map_eq_none_iff, List.find?_eq_none]
  exact h

theorem Txns.lookup_deregister_self (s : Txns) (k : TxnKey) : (s.deregister k).lookup k = none := by
  unfold Txns.lookup Txns.deregister
  simp only [Option.map_eq_none_iff, List.find?_eq_none, List.mem_filter]
  intro e he
  simpa using he.2

theorem Txns.mem_of_lookup (s : Txns) (k : TxnKey) (q : Nat) (h : s.lookup k = some q) :
    (k, q) ∈ s.pending := by
  obtain ⟨⟨k', _⟩, he, rfl⟩ := Option.map_eq_some_iff.mp h
  have hk := List.find?_some he
  cases beq_iff_eq.mp hk
  exact List.mem_of_find?_eq_some he

end Dht
