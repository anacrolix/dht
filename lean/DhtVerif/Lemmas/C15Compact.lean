/-
Lemmas for C15: the compact list codec (`unmarshalBinarySlice` / `marshalBinarySlice`).
-/
import DhtVerif.Model.Krpc
namespace Dht
namespace Krpc

theorem decCompact_sound (size : Nat) (b : List UInt8) :
    ∀ l, decCompact size b = some l → encCompact l = b ∧ ∀ c ∈ l, c.length = size := by
  -- of the branches of `decCompact` two return a list
  fun_induction decCompact size b <;> intro l h <;> cases h
  · -- no bytes left
    exact ⟨(List.eq_nil_of_length_eq_zero ‹_›).symm, nofun⟩
  · -- one element, and the rest decodes to `l'`
    rename_i l' hl' ih
    obtain ⟨h1, h2⟩ := ih l' hl'
    refine ⟨?_, List.forall_mem_cons.mpr ⟨?_, h2⟩⟩
    · rw [encCompact, List.flatten_cons, ← encCompact, h1, List.take_append_drop]
    · rw [List.length_take]; omega

theorem decCompact_isSome_iff (size : Nat) (hs : 0 < size) (b : List UInt8) :
    (decCompact size b).isSome = true ↔ b.length % size = 0 := by
  fun_induction decCompact size b
  · omega -- `size = 0`
  · simp [*] -- no bytes left
  · -- fewer than `size` bytes left
    rename_i hx hlt
    simpa [Nat.mod_eq_of_lt hlt] using hx
  -- one element; the rest decodes, or fails, as its length says
  all_goals
    rename_i hr ih
    rw [hr, List.length_drop] at ih
    rw [Nat.mod_eq_sub_mod (by omega)]
    exact ih

theorem decCompact_flatten (size : Nat) (hs : 0 < size) (l : List (List UInt8))
    (hl : ∀ c ∈ l, c.length = size) : decCompact size (encCompact l) = some l := by
  have h0 : ¬ size = 0 := by omega
  induction l with
  | nil => rw [decCompact, if_neg h0]; rfl
  | cons c t ih =>
    have hc : c.length = size := hl c (by simp)
    have hlen : (c ++ encCompact t).length = size + (encCompact t).length := by rw [List.length_append, hc]
    rw [encCompact, List.flatten_cons, ← encCompact, decCompact, if_neg h0, if_neg (by omega), if_neg (by omega),
      List.drop_left' hc, List.take_left' hc, ih fun c' hc' => hl c' (by simp [hc'])]

theorem compactSizes_pos : ∀ size ∈ compactSizes, 0 < size := by decide

end Krpc
end Dht
