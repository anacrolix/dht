/- T1 by translation (DESIGN.md 12.3a): `bep44.CheckIncoming`. -/
import DhtVerif.Lemmas.SourceTrees
import DhtVerif.Model.Bep44
namespace Dht
open Gen (DExp)

def ciCond (stored incoming : B44.Item) : String → Option Bool
  | "stored.Seq == incoming.Seq" => some (decide (stored.seq = incoming.seq))
  | "bytes.Equal(bencode.MustMarshal(stored.V), bencode.MustMarshal(incoming.V))" => some (decide (stored.bv = incoming.bv))
  | "stored.Seq >= incoming.Seq" => some (decide (stored.seq ≥ incoming.seq))
  | "incoming.Cas == 0" => some (decide (incoming.cas = 0))
  | "stored.Seq != incoming.Cas" => some (decide (stored.seq ≠ incoming.cas))
  | _ => none

def ciRet : String → Option (Option Nat)
  | "nil" => some none
  | "ErrSequenceNumberLessThanCurrent" => some (some Gen.bep44ErrSequenceNumberLessThanCurrent)
  | "ErrCasHashMismatched" => some (some Gen.bep44ErrCasHashMismatched)
  | _ => none

/-- `CheckIncoming` in bep44/item.go computes exactly the model's `checkIncoming` (the rule of the property). -/
theorem SourceTrees.checkIncoming (stored incoming : B44.Item) :
    DExp.evalWith (ciCond stored incoming) ciRet Gen.treeCheckIncoming = some (B44.checkIncoming stored incoming) := by
  simp only [Gen.treeCheckIncoming, DExp.evalWith_ite, DExp.evalWith_ret, ciCond, ciRet, Option.bind_some,
    B44.checkIncoming, B44.checkIncomingWith, B44.casRuleComparesStoredSeq, B44.checkIncomingSpec]
  generalize stored.seq = ss, incoming.seq = is, incoming.cas = ic
  grind

/-- Negative check: `Gen.treeCheckIncoming` with `>=` changed to `>` (both occurrences). -/
def treeCheckIncomingMutGt : DExp := DExp.ite "stored.Seq == incoming.Seq" (DExp.ite "bytes.Equal(bencode.MustMarshal(stored.V), bencode.MustMarshal(incoming.V))" (DExp.ret "nil") (DExp.ite "stored.Seq > incoming.Seq" (DExp.ret "ErrSequenceNumberLessThanCurrent") (DExp.ite "incoming.Cas == 0" (DExp.ret "nil") (DExp.ite "stored.Seq != incoming.Cas" (DExp.ret "ErrCasHashMismatched") (DExp.ret "nil"))))) (DExp.ite "stored.Seq > incoming.Seq" (DExp.ret "ErrSequenceNumberLessThanCurrent") (DExp.ite "incoming.Cas == 0" (DExp.ret "nil") (DExp.ite "stored.Seq != incoming.Cas" (DExp.ret "ErrCasHashMismatched") (DExp.ret "nil"))))

/-- The changed comparison has no meaning in the atom table: whenever evaluation reaches it, the result is `none`. -/
theorem SourceTrees.checkIncoming_mutGt_none (stored incoming : B44.Item)
    (h : ¬ (stored.seq = incoming.seq ∧ stored.bv = incoming.bv)) :
    DExp.evalWith (ciCond stored incoming) ciRet treeCheckIncomingMutGt = none := by
  simp only [treeCheckIncomingMutGt, DExp.evalWith_ite, ciCond, Option.bind_some]
  grind

/-- So the equation of `SourceTrees.checkIncoming` fails for the changed tree. -/
example : ¬ ∀ stored incoming : B44.Item,
    DExp.evalWith (ciCond stored incoming) ciRet treeCheckIncomingMutGt = some (B44.checkIncoming stored incoming) := by
  intro h
  have h' := h ⟨[], none, [], [], 0, 0⟩ ⟨[], none, [], [], 0, 1⟩
  rw [SourceTrees.checkIncoming_mutGt_none _ _ (by decide)] at h'
  exact absurd h' (by simp)

/-- Negative check with known atoms only: the results of the CAS test exchanged (that is `!=` read as `==`), in both
copies. The tree evaluates, but to a different answer (stored seq 1, incoming seq 2 with cas 1: the source accepts,
the changed tree rejects). -/
def treeCheckIncomingMutCas : DExp := DExp.ite "stored.Seq == incoming.Seq" (DExp.ite "bytes.Equal(bencode.MustMarshal(stored.V), bencode.MustMarshal(incoming.V))" (DExp.ret "nil") (DExp.ite "stored.Seq >= incoming.Seq" (DExp.ret "ErrSequenceNumberLessThanCurrent") (DExp.ite "incoming.Cas == 0" (DExp.ret "nil") (DExp.ite "stored.Seq != incoming.Cas" (DExp.ret "nil") (DExp.ret "ErrCasHashMismatched"))))) (DExp.ite "stored.Seq >= incoming.Seq" (DExp.ret "ErrSequenceNumberLessThanCurrent") (DExp.ite "incoming.Cas == 0" (DExp.ret "nil") (DExp.ite "stored.Seq != incoming.Cas" (DExp.ret "nil") (DExp.ret "ErrCasHashMismatched"))))

example :
    DExp.evalWith (ciCond ⟨[], none, [], [], 0, 1⟩ ⟨[], none, [], [], 1, 2⟩) ciRet treeCheckIncomingMutCas
      = some (some Gen.bep44ErrCasHashMismatched) ∧
    B44.checkIncoming ⟨[], none, [], [], 0, 1⟩ ⟨[], none, [], [], 1, 2⟩ = none := by
  constructor
  · simp [treeCheckIncomingMutCas, DExp.evalWith_ite, DExp.evalWith_ret, ciCond, ciRet]
  · decide

end Dht
