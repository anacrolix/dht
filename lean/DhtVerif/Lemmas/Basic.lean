/- Facts about lists and bytes that core Lean lacks; nothing here speaks of the model. -/
namespace Dht

theorem toUInt8_inj_of_lt {a b : Nat} (ha : a < 256) (hb : b < 256)
    (h : a.toUInt8 = b.toUInt8) : a = b := by
  have h' := congrArg UInt8.toNat h
  simp only [Nat.toUInt8_eq, UInt8.toNat_ofNat'] at h'
  omega

theorem pairwise_cons_cons_iff {α} {R : α → α → Prop} (htr : ∀ a b c, R a b → R b c → R a c)
    (a b : α) (l : List α) : (a :: b :: l).Pairwise R ↔ R a b ∧ (b :: l).Pairwise R := by
  rw [List.pairwise_cons (a := a), List.forall_mem_cons]
  exact ⟨fun h => ⟨h.1.1, h.2⟩,
    fun h => ⟨⟨h.1, fun c hc => htr a b c h.1 ((List.pairwise_cons.mp h.2).1 c hc)⟩, h.2⟩⟩

/-- Pigeonhole: a duplicate-free list drawn from `l₂` that is at least as long as `l₂` covers `l₂`
(otherwise `x :: l₁` would be a longer duplicate-free list drawn from `l₂`). -/
theorem subset_of_nodup_of_length_le {α} {l₁ l₂ : List α} (hnd : l₁.Nodup) (hsub : ∀ x ∈ l₁, x ∈ l₂)
    (hlen : l₂.length ≤ l₁.length) : ∀ x ∈ l₂, x ∈ l₁ := by
  intro x hx
  apply Classical.byContradiction
  intro hn
  have := (List.nodup_cons.mpr ⟨hn, hnd⟩).length_le_of_subset (l₂ := l₂)
    (fun y hy => (List.mem_cons.mp hy).elim (· ▸ hx) (hsub y))
  simp at this; omega

theorem nodup_map_inj {α β} (f : α → β) {l : List α} (h : (l.map f).Nodup) {x y : α}
    (hx : x ∈ l) (hy : y ∈ l) (e : f x = f y) : x = y := by
  have hp : l.Pairwise (fun a b => f a ≠ f b) := List.pairwise_map.mp h
  exact List.Pairwise.forall_of_forall_of_flip (R := fun a b => f a = f b → a = b) (fun _ _ _ => rfl)
    (hp.imp fun hne e => absurd e hne) (hp.imp fun hne e => absurd e.symm hne) hx hy e

theorem exists_mem_not_mem_of_length_lt {α} {A B : List α} (hnd : A.Nodup) (h : B.length < A.length) :
    ∃ c ∈ A, c ∉ B :=
  Classical.byContradiction fun hn => Nat.not_le_of_lt h
    (hnd.length_le_of_subset fun c hc => Classical.byContradiction fun hcs => hn ⟨c, hc, hcs⟩)

theorem eraseIdx_perm {α : Type} : ∀ (l : List α) (i : Nat) (w : α), l[i]? = some w → l.Perm (w :: l.eraseIdx i)
  | [], _, _, h => by simp at h
  | a :: l, 0, w, h => by
    simp at h; subst h; exact List.Perm.refl _
  | a :: l, i + 1, w, h => by
    have ih := eraseIdx_perm l i w (by simpa using h)
    simp only [List.eraseIdx_cons_succ]
    exact (List.Perm.cons a ih).trans (List.Perm.swap w a _)

theorem countP_map_le_eq_length {α : Type} (f : α → Nat) (X : Nat) (l : List α) (h : ∀ a ∈ l, f a ≤ X) :
    (l.map f).countP (fun g => decide (g ≤ X)) = l.length := by
  rw [List.countP_map]
  exact List.countP_eq_length.mpr fun a ha => decide_eq_true (h a ha)

theorem foldlM_induction {σ ε : Type} {f : σ → ε → Option σ} {P : σ → Prop} {evs : List ε} {s0 s : σ}
    (h : evs.foldlM f s0 = some s) (h0 : P s0)
    (hstep : ∀ e ∈ evs, ∀ s1 s2, P s1 → f s1 e = some s2 → P s2) : P s := by
  induction evs generalizing s0 with
  | nil => cases h; exact h0
  | cons e es ih =>
    rw [List.foldlM_cons] at h
    obtain ⟨s1, hs, hr⟩ := Option.bind_eq_some_iff.mp h
    exact ih hr (hstep e List.mem_cons_self s0 s1 h0 hs) fun e' he' => hstep e' (List.mem_cons_of_mem _ he')

theorem length_eraseDups_le {α} [BEq α] [LawfulBEq α] (l : List α) : l.eraseDups.length ≤ l.length := by
  generalize hn : l.length = n
  induction n using Nat.strongRecOn generalizing l with
  | _ n ih =>
    cases l with
    | nil => simp
    | cons a as =>
      rw [List.eraseDups_cons]
      simp only [List.length_cons] at hn ⊢
      have hf := List.length_filter_le (fun b => !b == a) as
      have := ih (as.filter fun b => !b == a).length (by omega) _ rfl
      omega

theorem nodup_of_length_eraseDups {α} [BEq α] [LawfulBEq α] (l : List α)
    (h : l.eraseDups.length = l.length) : l.Nodup := by
  induction l with
  | nil => exact List.nodup_nil
  | cons a as ih =>
    rw [List.eraseDups_cons] at h
    simp only [List.length_cons, Nat.add_right_cancel_iff] at h
    have hf := List.length_filter_le (fun b => !b == a) as
    have hle := length_eraseDups_le (as.filter fun b => !b == a)
    have hlen : (as.filter fun b => !b == a).length = as.length := by omega
    have hall := List.length_filter_eq_length_iff.mp hlen
    have hself : as.filter (fun b => !b == a) = as := List.filter_eq_self.mpr hall
    rw [hself] at h
    refine List.nodup_cons.mpr ⟨?_, ih h⟩
    intro hmem
    have := hall a hmem
    simp at this

theorem sum_map_add (l : List Nat) (f g : Nat → Nat) :
    (l.map (fun i => f i + g i)).sum = (l.map f).sum + (l.map g).sum := by
  induction l with
  | nil => simp
  | cons a l ih => simp only [List.map_cons, List.sum_cons, ih]; omega

theorem sum_indicator (l : List Nat) (i0 : Nat) :
    (l.map (fun i => if i = i0 then 1 else 0)).sum = l.count i0 := by
  induction l with
  | nil => rfl
  | cons a l ih =>
    rw [List.map_cons, List.sum_cons, ih, List.count_cons, Nat.add_comm]
    simp only [beq_iff_eq]

theorem sum_le_mul (N k : Nat) (f : Nat → Nat) (h : ∀ i, f i ≤ k) :
    ((List.range N).map f).sum ≤ N * k := by
  induction N with
  | zero => simp
  | succ N ih =>
    rw [List.range_succ, List.map_append, List.sum_append]
    have := h N
    simp only [List.map_cons, List.map_nil, List.sum_cons, List.sum_nil]
    rw [Nat.succ_mul]
    omega

/-- A closed `Option` computation yields a value with a decidable property: evaluate. -/
theorem exists_some_of_any {α : Type} {o : Option α} {p : α → Prop} [DecidablePred p]
    (h : o.any (fun y => decide (p y)) = true) : ∃ y, o = some y ∧ p y := by
  cases o with
  | none => cases h
  | some y => exact ⟨y, rfl, of_decide_eq_true h⟩

/-- The same for two computations in a row, with room for a consequence `q` that is not decidable. -/
theorem exists_some_of_any₂ {α β : Type} {o : Option α} {g : α → Option β} {p q : α → β → Prop}
    [∀ a b, Decidable (p a b)] (hq : ∀ a b, p a b → q a b)
    (h : (o.any fun a => (g a).any fun b => decide (p a b)) = true) : ∃ a b, o = some a ∧ g a = some b ∧ q a b := by
  cases o with
  | none => cases h
  | some a =>
    obtain ⟨b, hb, h⟩ := exists_some_of_any (o := g a) (p := p a) h
    exact ⟨a, b, rfl, hb, hq a b h⟩

theorem list_last_split {α : Type} (l : List α) (j : Nat) (x : α) (h : l[j]? = some x) (hj : j + 1 = l.length) :
    l = l.eraseIdx j ++ [x] := by
  obtain ⟨hlt, rfl⟩ := List.getElem?_eq_some_iff.mp h
  rw [List.eraseIdx_eq_take_drop_succ, List.drop_eq_nil_of_le (Nat.le_of_eq hj.symm), List.append_nil]
  conv => lhs; rw [← List.take_append_drop j l, List.drop_eq_getElem_cons hlt,
    List.drop_eq_nil_of_le (Nat.le_of_eq hj.symm)]

theorem ite_none_ite {α : Type} (c d : Prop) [Decidable c] [Decidable d] (x : Option α) :
    (if c then none else if d then x else none) = if ¬ c ∧ d then x else none := by
  by_cases hc : c <;> simp [hc]

theorem length_eq_countP_le_add_gt (X : Nat) (l : List Nat) :
    l.length = l.countP (fun g => decide (g ≤ X)) + l.countP (fun g => decide (X < g)) := by
  rw [List.length_eq_countP_add_countP (fun g => decide (g ≤ X))]
  congr 1
  exact List.countP_congr fun g _ => by simp

end Dht
