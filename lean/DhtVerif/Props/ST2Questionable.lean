/- T1 by translation (DESIGN.md 12.3a): node.go `Server.IsQuestionable`. -/
import DhtVerif.Lemmas.SourceTrees
import DhtVerif.Props.STCommon
import DhtVerif.Model.SourceTrees2
import DhtVerif.Model.Server
import DhtVerif.Props.STNodes
namespace Dht
open Gen (DExp SExp)

/-- `nodeIsBad(n)` is `s.nodeErr(n) != nil`; `IsGood` and `nodeErr` are read from their own sources (the
atom tables of Props/STNodes). -/
def iqRet (c : TableCfg) (now : Nat) (n : Node) : String → Option Bool
  | "!s.IsGood(n) && !s.nodeIsBad(n)" =>
    match DExp.evalWith (isGoodCond c n) (isGoodRet c now n) Gen.treeIsGood,
          DExp.evalWith (nodeErrCond c n) nodeErrRet Gen.treeNodeErr with
    | some g, some b => some (!g && !b)
    | _, _ => none
  | _ => none

/-- `Server.IsQuestionable` in node.go is the model's `isQuestionable`. -/
theorem SourceTrees.isQuestionable (c : TableCfg) (now : Nat) (n : Node) :
    DExp.evalWith noCond (iqRet c now n) Gen.treeIsQuestionable = some (Dht.isQuestionable c now n) := by
  simp only [Gen.treeIsQuestionable, DExp.evalWith_ret, iqRet, SourceTrees.isGood, SourceTrees.nodeErr,
    Dht.isQuestionable]

/-- Negative check: `||` for `&&`: unknown result, no value for any node. -/
example (c : TableCfg) (now : Nat) (n : Node) :
    DExp.evalWith noCond (iqRet c now n) (DExp.ret "!s.IsGood(n) || !s.nodeIsBad(n)") = none := by
  simp [DExp.evalWith_ret, iqRet]

/-- Negative check: the `nodeIsBad` conjunct dropped: unknown result. -/
example (c : TableCfg) (now : Nat) (n : Node) :
    DExp.evalWith noCond (iqRet c now n) (DExp.ret "!s.IsGood(n)") = none := by
  simp [DExp.evalWith_ret, iqRet]

/-- Non-vacuity: a fresh node that never responded is questionable, one that just responded is not. -/
example :
    DExp.evalWith noCond (iqRet { root := [1] } 5 { id := [2], addr := ⟨[1, 2, 3, 4], 1⟩ }) Gen.treeIsQuestionable = some true ∧
    DExp.evalWith noCond (iqRet { root := [1] } 5 { id := [2], addr := ⟨[1, 2, 3, 4], 1⟩, lastResp := some 5 })
      Gen.treeIsQuestionable = some false := by
  rw [SourceTrees.isQuestionable, SourceTrees.isQuestionable]
  constructor <;> decide +kernel


theorem SourceTrees.isQuestionable_no_skipped_statements : Gen.treeIsQuestionableLets = [] := by decide

end Dht
