/-
C17 — BEP 42 node-ID security is computed exactly as specified.

Theorems about DhtVerif/Model/Security.lean for every IPv4/IPv6 address
(4 or 16 raw bytes, including v4-mapped) and every 20-byte ID.
-/
import DhtVerif.Model.Security
import DhtVerif.Lemmas.C17
import DhtVerif.Props.ST2Local
import DhtVerif.Props.ST2Filter
namespace Dht
open C17

/-- The regenerated masks are the BEP 42 masks (side condition on the source). -/
theorem C17.masks_are_bep42 :
    Gen.v4Mask = [0x03, 0x0f, 0x3f, 0xff] ∧ Gen.v6Mask = [0x01, 0x03, 0x07, 0x0f, 0x1f, 0x3f, 0x7f, 0xff] ∧
    Gen.missing = [] :=
  ⟨rfl, rfl, rfl⟩

/-- Securing never crashes on a real address and keeps the length. -/
theorem C17.secure_total (id ip : List UInt8) (hid : id.length = 20) (hip : validIp ip = true) :
    ∃ id', secureNodeId id ip = some id' ∧ id'.length = 20 := by
  obtain ⟨a0, a1, a2, rest, rfl, hr⟩ := list20_shape id hid
  obtain ⟨c, hc⟩ := crcIP_total ip (rest.getD 16 0) hip
  rw [secure_shape, hc]
  exact ⟨_, rfl, by simp [hr]⟩

/-- Securing an ID changes only its first 21 bits: bytes 3..19 and the low
three bits of byte 2 are untouched. -/
theorem C17.secure_touches_21_bits (id ip id' : List UInt8) (hid : id.length = 20)
    (h : secureNodeId id ip = some id') :
    id'.drop 3 = id.drop 3 ∧ (id'.getD 2 0 &&& 7) = (id.getD 2 0 &&& 7) := by
  obtain ⟨a0, a1, a2, rest, c, rfl, hr, hc, rfl⟩ := secure_inv id ip id' hid h
  exact ⟨rfl, u8_merge_lo _ _⟩

theorem C17.secure_idempotent (id ip id' : List UInt8) (hid : id.length = 20)
    (h : secureNodeId id ip = some id') : secureNodeId id' ip = some id' := by
  obtain ⟨a0, a1, a2, rest, c, rfl, hr, hc, rfl⟩ := secure_inv id ip id' hid h
  rw [secure_shape, hc, Option.map_some, u8_merge_lo]

/-- A secured ID verifies for the address it was secured for. -/
theorem C17.secure_then_valid (id ip id' : List UInt8) (hid : id.length = 20)
    (h : secureNodeId id ip = some id') : nodeIdSecure id' ip = some true := by
  obtain ⟨a0, a1, a2, rest, c, rfl, hr, hc, rfl⟩ := secure_inv id ip id' hid h
  rw [nodeIdSecure, getD19_shape, hc] -- the comparison succeeds, so both branches are `some true`
  simp only [List.getD_cons_zero, List.getD_cons_succ, u8_merge_hi, beq_self_eq_true, Bool.and_self, ite_self]

/-- Verification is the BEP 42 rule: local addresses accept everything;
otherwise the ID's first 21 bits must equal the top 21 bits of CRC32-C over
the masked address seeded with the low three bits of the last ID byte. -/
theorem C17.valid_iff_spec (id ip : List UInt8) (hid : id.length = 20) (hip : validIp ip = true) :
    ∃ p, bep42Prefix ip (id.getD 19 0) = some p ∧
      nodeIdSecure id ip = some (isLocalNetwork ip || decide (prefix21 id = p)) := by
  have _ := hid
  obtain ⟨c, hc⟩ := crcIP_total ip (id.getD 19 0) hip
  refine ⟨(byte c 24, byte c 16, byte c 8 &&& 0xf8), by simp only [bep42Prefix, hc, Option.map_some], ?_⟩
  rw [nodeIdSecure, hc]
  cases isLocalNetwork ip
  · simp [prefix21, Bool.decide_and, Bool.and_assoc, Bool.beq_eq_decide_eq]
  · rfl

/-- The CRC input depends only on the low three bits of the seed byte. -/
theorem C17.seed_low_three_bits (ip : List UInt8) (r : UInt8) :
    crcIP ip r = crcIP ip (r &&& 7) := by
  simp only [crcIP, UInt8.and_assoc, UInt8.and_self]

/-- Every ID is accepted for private, loopback and link-local addresses. -/
theorem C17.local_always_valid (id ip : List UInt8) (h : isLocalNetwork ip = true) :
    nodeIdSecure id ip = some true := by
  simp [nodeIdSecure, h]

/-- 10/8, 172.16/12, 192.168/16, 169.254/16, 127/8 (also in v4-mapped form), fe80::/10 and ::1 are local. -/
theorem C17.local_ranges :
    (∀ b c d : UInt8, isLocalNetwork [10, b, c, d] = true) ∧
    (∀ c d : UInt8, isLocalNetwork [192, 168, c, d] = true) ∧
    (∀ c d : UInt8, isLocalNetwork [169, 254, c, d] = true) ∧
    (∀ b c d : UInt8, isLocalNetwork [127, b, c, d] = true) ∧
    (∀ b c d : UInt8, b &&& 0xf0 = 16 → isLocalNetwork [172, b, c, d] = true) ∧
    (∀ b c d : UInt8, isLocalNetwork (v4InV6Prefix ++ [10, b, c, d]) = true) ∧
    isLocalNetwork [0,0,0,0,0,0,0,0,0,0,0,0,0,0,0,1] = true := by
  refine ⟨?_, ?_, ?_, ?_, ?_, ?_, by decide +kernel⟩
  · intro b c d; simp [isLocalNetwork, to4, inPrefix, u8_and_255]
  · intro c d; simp [isLocalNetwork, to4, inPrefix, u8_and_255]
  · intro c d; simp [isLocalNetwork, to4, inPrefix, u8_and_255]
  · intro b c d; simp [isLocalNetwork, to4, inPrefix, u8_and_255]
  · intro b c d h; simp [isLocalNetwork, to4, inPrefix, h, u8_and_255]
  · intro b c d; simp [isLocalNetwork, to4, inPrefix, v4InV6Prefix, u8_and_255]

/-! Non-vacuity: the first BEP 42 test vector (124.31.75.21, seed 1 -> 5fbfbf…). -/
example : (secureNodeId ([0,0,0xf8] ++ List.replicate 16 0 ++ [1]) [124,31,75,21]).map (·.take 3) =
    some [0x5f, 0xbf, 0xb8] := by decide +kernel
example : validIp [124,31,75,21] = true := by decide +kernel

/-- The secured ID carries exactly the BEP 42 prefix for the address and the
seed in the (unchanged) last ID byte. -/
theorem C17.secure_sets_bep42_prefix (id ip id' : List UInt8) (hid : id.length = 20)
    (h : secureNodeId id ip = some id') :
    bep42Prefix ip (id.getD 19 0) = some (prefix21 id') ∧ id'.getD 19 0 = id.getD 19 0 := by
  obtain ⟨a0, a1, a2, rest, c, rfl, hr, hc, rfl⟩ := secure_inv id ip id' hid h
  refine ⟨?_, rfl⟩
  rw [getD19_shape, bep42Prefix, hc, Option.map_some, prefix21]
  simp only [List.getD_cons_zero, List.getD_cons_succ, u8_merge_hi]

/-- Securing fails exactly when the CRC input cannot be formed (address too short). -/
theorem C17.secure_none_iff (id ip : List UInt8) :
    secureNodeId id ip = none ↔ crcIP ip (id.getD 19 0) = none := by
  unfold secureNodeId
  cases crcIP ip (id.getD 19 0) <;> simp

/-- fe80::/10 (link-local unicast) is local. -/
theorem C17.local_fe80 (ip : List UInt8) (hl : ip.length = 16) (h0 : ip.getD 0 0 = 0xfe)
    (h1 : ip.getD 1 0 &&& 0xc0 = 0x80) : isLocalNetwork ip = true := by
  match ip, hl with
  | a0 :: a1 :: rest, hr =>
    have e0 : a0 = 0xfe := h0
    have e1 : a1 &&& 0xc0 = 0x80 := h1
    subst e0
    have hr' : rest.length = 14 := by simpa using hr
    simp [isLocalNetwork, to4, hr', v4InV6Prefix, e1]
example : isLocalNetwork [0xfe,0x80,0,0,0,0,0,0,0,0,0,0,0,0,0,1] = true := by decide +kernel

/-! More non-vacuity: a 16-byte (non-mapped) address, a v4-mapped address, the
172.16/12 side condition, verification of the test vector, and a malformed
address on which the Go code would crash (so `validIp` is needed). -/
example : validIp [0x20,0x01,0x0d,0xb8,0,0,0,0,0,0,0,0,0,0,0,1] = true := by decide +kernel
example : (secureNodeId (List.replicate 19 0 ++ [1]) [0x20,0x01,0x0d,0xb8,0,0,0,0,0,0,0,0,0,0,0,1]).isSome = true := by
  decide +kernel
example : secureNodeId ([0,0,0xf8] ++ List.replicate 16 0 ++ [1]) (v4InV6Prefix ++ [124,31,75,21]) =
    secureNodeId ([0,0,0xf8] ++ List.replicate 16 0 ++ [1]) [124,31,75,21] := by decide +kernel
example : nodeIdSecure ([0x5f, 0xbf, 0xbf] ++ List.replicate 16 0 ++ [1]) [124,31,75,21] = some true := by
  decide +kernel
example : nodeIdSecure ([0x5f, 0xbf, 0x3f] ++ List.replicate 16 0 ++ [1]) [124,31,75,21] = some false := by
  decide +kernel
example : isLocalNetwork [124,31,75,21] = false := by decide +kernel
example : (31 : UInt8) &&& 0xf0 = 16 := by decide +kernel
example : isLocalNetwork [172, 32, 0, 1] = false := by decide +kernel
example : crcIP [1,2,3] 0 = none := by decide +kernel
example : secureNodeId (List.replicate 20 0) [1,2,3] = none := by decide +kernel

/-! ## T1 by translation: the exemption and the traversal's enforcement are the source's -/

/-- `isLocalNetwork` in security.go (with the networks its `init` parses) IS the model's `isLocalNetwork`. -/
theorem C17.isLocalNetwork_is_the_source (ip : List UInt8) :
    Gen.treeSecurityInitLets = ilnInitExpected ∧
    DExp.evalWith (ilnCond ip) boolRet Gen.treeIsLocalNetwork = some (isLocalNetwork ip) :=
  SourceTrees.isLocalNetwork ip

/-- `Server.TraversalNodeFilter` in server.go IS `traversalNodeFilter`, and unless `NoSecurity` a candidate with
a known ID passes it only with an ID that `nodeIdSecure` accepts for its address. -/
theorem C17.traversalNodeFilter_enforces_security (c : SrvCfg) (n : Cand) :
    DExp.evalWith (tnfCond c n) (tnfRet c n) Gen.treeTraversalNodeFilter = some (traversalNodeFilter c n) ∧
    (∀ id a, c.tbl.noSecurity = false → traversalNodeFilter c ⟨some id, a⟩ = true → nodeIdSecure id a.ip = some true) :=
  ⟨SourceTrees.traversalNodeFilter c n, fun id a hs h => traversalNodeFilter_secure c id a hs h⟩

end Dht
