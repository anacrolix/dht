/-
C12 (client side) — "a get traversal hands its caller only values that hash to the requested
immutable target or verify under the requested mutable target's key and salt, and among those
the one with the highest sequence number, whatever the remote nodes reply."

Property theorems about the executable model DhtVerif/Model/Getput.lean of
/repo/exts/getput/getput.go. SHA-1 `H` and ed25519 `verify`
are PARAMETERS: every theorem holds for every `H` and every `verify`. The quantifier "for all
get replies from simulated remote nodes … in any order" is the universal quantification over
`evs : List Event` — every finite sequence of query outcomes (reply with any subset of fields
and any contents, or no reply), in every arrival order.

`Int64Seqs evs` is the typing fact that a reply's `seq` is a Go `int64` (never below
`math.MinInt64`, the value `Get` starts its maximum from).
-/
import DhtVerif.Lemmas.C12Client
namespace Dht.C12Client
open Dht.B44 (Bytes Target Key bufferToSign)
open Dht.Getput

/-- "The value handed to the caller comes from reply `r`, and `r` is valid for the target":
it hashes to the target (immutable), or it carries a `seq`, its key and the requested salt hash
to the target and its signature verifies for exactly (salt, seq, v) under that key (mutable). -/
def ValidFrom (H : Bytes → Target) (verify : Key → Bytes → Bytes → Bool) (target : Target) (salt : Bytes)
    (r : GetReply) (res : GetResult) : Prop :=
  res.v = r.v ∧ res.sig = r.sig ∧
  ((res.isMutable = false ∧ H r.bv = target) ∨
   (res.isMutable = true ∧ r.seq = some res.seq ∧ H (r.k ++ salt) = target ∧
      verify r.k (bufferToSign salt res.seq r.bv) r.sig = true))

/-- For ALL reply sequences in any order: whatever `Get` hands its caller is the value of one of
the replies received, and that reply is valid for the requested target (and salt). -/
theorem client_accepts_only_valid (H : Bytes → Target) (verify : Key → Bytes → Bytes → Bool)
    (target : Target) (salt : Bytes) (evs : List Event) (hseq : Int64Seqs evs) (res : GetResult)
    (h : clientGet H verify target salt evs = some res) :
    ∃ r, some r ∈ evs ∧ ValidFrom H verify target salt r res := by
  obtain ⟨r, hr, hacc⟩ := mem_results.mp (getFold_mem _ (results_inRange hseq) res h)
  obtain ⟨hv, hs, hcase, _⟩ := accept_some hacc
  exact ⟨r, hr, hv, hs, hcase⟩

/-- With the idealisation "a signature verifies only for the (key, message) it was produced
for" (`Signed k m sg` = the holder of `k` produced `sg` for `m`), a mutable value handed to the
caller was signed, as (salt, seq, v), by the holder of a key that hashes with the salt to the
requested target. The idealisation is a HYPOTHESIS. -/
theorem client_value_signed_by_target_key (H : Bytes → Target) (verify : Key → Bytes → Bytes → Bool)
    (Signed : Key → Bytes → Bytes → Prop) (hideal : ∀ k m sg, verify k m sg = true → Signed k m sg)
    (target : Target) (salt : Bytes) (evs : List Event) (hseq : Int64Seqs evs) (res : GetResult)
    (h : clientGet H verify target salt evs = some res) (hm : res.isMutable = true) :
    ∃ k, H (k ++ salt) = target ∧ Signed k (bufferToSign salt res.seq (res.v.getD [])) res.sig := by
  obtain ⟨r, _, hv, hs, hcase⟩ := client_accepts_only_valid H verify target salt evs hseq res h
  rcases hcase with ⟨hf, _⟩ | ⟨_, _, hk, hver⟩
  · rw [hm] at hf; cases hf
  · refine ⟨r.k, hk, ?_⟩
    have := hideal _ _ _ hver
    rw [hv, hs]; exact this

/-- For ALL reply sequences: when `Get` returns a mutable value, every accepted reply of the
sequence was a mutable one with a sequence number not above the returned one; the returned one
IS one of them, every accepted reply that arrived after it has a strictly smaller sequence
number and every one before it a smaller or equal one (ties: the later arrival wins). -/
theorem client_returns_max_seq (H : Bytes → Target) (verify : Key → Bytes → Bytes → Bool)
    (target : Target) (salt : Bytes) (evs : List Event) (hseq : Int64Seqs evs) (res : GetResult)
    (h : clientGet H verify target salt evs = some res) (hm : res.isMutable = true) :
    (∀ x ∈ results H verify target salt evs, x.isMutable = true ∧ x.seq ≤ res.seq) ∧
    ∃ pre post, results H verify target salt evs = pre ++ res :: post ∧
      (∀ x ∈ pre, x.seq ≤ res.seq) ∧ (∀ x ∈ post, x.seq < res.seq) := by
  have hr := results_inRange (H := H) (verify := verify) (target := target) (salt := salt) hseq
  unfold clientGet at h
  rcases getFold_cases _ hr with ⟨_, hn⟩ | ⟨pre, v, post, _, _, hv, hs⟩ | ⟨hall, r, pre, post, hs, he, h1, h2⟩
  · rw [hn] at h; cases h
  · rw [hs] at h; cases h; rw [hm] at hv; cases hv
  · rw [hs] at h; cases h
    exact ⟨fun x hx => ⟨hall x hx, le_of_split he h1 h2 x hx⟩, pre, post, he, h1, h2⟩

/-- An accepted immutable reply wins over everything: if any reply of the sequence hashes to
the target, `Get` returns an immutable value (the first such reply to arrive). -/
theorem client_immutable_first (H : Bytes → Target) (verify : Key → Bytes → Bytes → Bool)
    (target : Target) (salt : Bytes) (evs : List Event) (r : GetReply) (hr : some r ∈ evs)
    (hh : H r.bv = target) :
    ∃ res, clientGet H verify target salt evs = some res ∧ res.isMutable = false := by
  have hacc : accept H verify target salt r = some ⟨0, r.v, r.sig, false⟩ := by unfold accept; rw [if_pos hh]
  obtain ⟨v, _, hv, hs⟩ := getFold_of_immutable (mem_results.mpr ⟨r, hr, hacc⟩) rfl
  exact ⟨v, hs, hv⟩

theorem client_ignores_all_invalid (H : Bytes → Target) (verify : Key → Bytes → Bytes → Bool)
    (target : Target) (salt : Bytes) (evs : List Event) :
    clientGet H verify target salt (evs.filter (fun e => (acceptEv H verify target salt e).isSome)) =
      clientGet H verify target salt evs ∧
    putSeq H verify target salt (evs.filter (fun e => (acceptEv H verify target salt e).isSome)) =
      putSeq H verify target salt evs := by
  have : results H verify target salt (evs.filter (fun e => (acceptEv H verify target salt e).isSome)) =
      results H verify target salt evs := by
    unfold results
    rw [List.filterMap_filter]
    congr 1; funext e
    cases hacc : acceptEv H verify target salt e <;> rfl
  unfold clientGet putSeq
  rw [this]; exact ⟨rfl, rfl⟩

/-- The number `Put` derives is the same for every arrival order. -/
theorem put_autoseq_order_independent (H : Bytes → Target) (verify : Key → Bytes → Bytes → Bool)
    (target : Target) (salt : Bytes) (evs evs' : List Event) (hp : evs'.Perm evs) :
    putSeq H verify target salt evs' = putSeq H verify target salt evs := by
  have hperm : (results H verify target salt evs').Perm (results H verify target salt evs) :=
    List.Perm.filterMap _ hp
  unfold putSeq
  rw [putAutoSeq_eq, putAutoSeq_eq]
  have key : ∀ a b : List GetResult, a.Perm b → a.foldl pickSeq 0 ≤ b.foldl pickSeq 0 := by
    intro a b hab
    rcases (foldl_pickSeq_spec a 0).2.2 with h | ⟨x, hx, hm, hs⟩
    · rw [h]; exact (foldl_pickSeq_spec b 0).1
    · rw [← hs]; exact (foldl_pickSeq_spec b 0).2.1 x (hab.mem_iff.mp hx) hm
  exact Int.le_antisymm (key _ _ hperm) (key _ _ hperm.symm)

/-! ## Non-vacuity

Idealised signatures ("verifies iff it is key ‖ message"), `H` = identity; target = key ‖ salt
of the key `[7]` with salt `[1]`. -/

section NonVacuity

private def Hid : Bytes → Target := fun b => b
private def vfy : Key → Bytes → Bytes → Bool := fun k m sg => sg == k ++ m
private def tgt : Target := [7, 1]
private def slt : Bytes := [1]
private def signed (k : Key) (seq : Int) (v : Bytes) : GetReply :=
  ⟨some v, k, k ++ bufferToSign slt seq v, some seq, some [116]⟩

/-- genuine seq 4, genuine seq 6, a forgery claiming seq 9 (signature made for seq 6), the key's
item without `seq`, another key's genuine item, an error reply, genuine seq 6 with another
value: the caller gets seq 6, and — the tie — the value that arrived later. -/
example :
    clientGet Hid vfy tgt slt
      [some (signed [7] 4 [105, 49, 101]),
       some (signed [7] 6 [105, 50, 101]),
       some { signed [7] 6 [105, 50, 101] with seq := some 9 },
       some { signed [7] 8 [105, 51, 101] with seq := none },
       some (signed [8] 99 [105, 52, 101]),
       none,
       some (signed [7] 6 [105, 53, 101])]
    = some ⟨6, some [105, 53, 101], [7] ++ bufferToSign slt 6 [105, 53, 101], true⟩ := by decide +kernel

/-- Only invalid replies: "value not found". -/
example :
    clientGet Hid vfy tgt slt
      [some { signed [7] 6 [105, 50, 101] with seq := some 9 }, none,
       some { signed [7] 6 [105, 50, 101] with v := some [105, 57, 101] },
       some { signed [7] 6 [105, 50, 101] with sig := [0] }] = none := by decide +kernel

/-- Immutable target `H v = v`: the value that hashes to it is returned at once, a different
value is not. -/
example :
    clientGet Hid vfy [105, 49, 101] []
      [some ⟨some [105, 50, 101], [], [], none, none⟩, some ⟨some [105, 49, 101], [], [], none, none⟩,
       some ⟨some [105, 49, 101], [], [9], none, none⟩]
    = some ⟨0, some [105, 49, 101], [], false⟩ := by decide +kernel

/-- A sequence number of `math.MinInt64` itself is still returned. -/
example :
    (clientGet Hid vfy tgt slt [some (signed [7] minInt64 [105, 49, 101])]).map (·.seq) = some minInt64 := by decide +kernel

/-- `Put` starts from 0: negative sequence numbers do not lower it, the forgery does not raise it. -/
example :
    putSeq Hid vfy tgt slt
      [some (signed [7] (-3) [105, 49, 101]), some (signed [7] 6 [105, 50, 101]),
       some { signed [7] 6 [105, 50, 101] with seq := some 9 }, some (signed [7] 2 [105, 49, 101])] = 6 ∧
    putSeq Hid vfy tgt slt [some (signed [7] (-3) [105, 49, 101])] = 0 := by decide +kernel

end NonVacuity

end Dht.C12Client
