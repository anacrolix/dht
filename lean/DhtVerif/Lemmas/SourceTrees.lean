/-
The two interpreters as rewrite rules. A condition is looked up with `Option.bind` and decided with `if`, so
that `simp only [tree, DExp.evalWith_ite, DExp.evalWith_ret, <atom tables>, Option.bind_some]` turns
`evalWith cond ret tree` into nested `if`s over the model's own tests. The rules are proved by `rw` and not stated as `:= rfl`
(`simp` would then use them by unfolding), and the atom is an argument of `bind`, not the discriminant of a `match`: otherwise `simp` reduces the
`match` by evaluating the atom table, and the kernel repeats that evaluation (string comparisons, the dearest
thing it can be asked to do) for every use. Where every leaf is a result, `← apply_ite some` then collects the `some`s of
the leaves in front of the `if`s, and a model function written as the same chain of `if`s is literally what stands
under it; `ite_some_true` does this for a chain of `return true`s that the model writes as a disjunction. The table of
results (`boolRet`, `nodeErrRet`, `ciRet`, ..) is unfolded first (`unfold xRet`) or is part of the `simp only` set;
without one of the two the leaves stay as `xRet "false"`.
-/
import DhtVerif.Model.SourceTrees
import DhtVerif.Model.SourceTrees2
namespace Dht
open Gen (DExp SExp)

theorem DExp.evalWith_ite {α} (cond : String → Option Bool) (ret : String → Option α) (c : String) (t e : DExp) :
    DExp.evalWith cond ret (.ite c t e) =
      (cond c).bind fun b => if b then DExp.evalWith cond ret t else DExp.evalWith cond ret e := by
  rw [DExp.evalWith]; rcases cond c with _ | _ | _ <;> rfl

theorem DExp.evalWith_ret {α} (cond : String → Option Bool) (ret : String → Option α) (e : String) :
    DExp.evalWith cond ret (.ret e) = ret e := by rw [DExp.evalWith]

/-- `if b { return true }` in front of the rest of a Boolean body is a disjunction. -/
theorem ite_some_true (b c : Bool) : (if b = true then some true else some c) = some (b || c) := by
  cases b <;> rfl

/- For statement trees the rules are about the interpreter as a function of the state, so that they also apply to
the continuation under a `bind` before the state it will be run in is known. -/
theorem SExp.evalWith_seq {σ α} (step : String → σ → Option σ) (cond : String → σ → Option Bool)
    (ret : String → σ → Option α) (st : String) (k : SExp) :
    SExp.evalWith step cond ret (.seq st k) = fun s => (step st s).bind (SExp.evalWith step cond ret k) := by
  funext s; rw [SExp.evalWith]; cases step st s <;> rfl

theorem SExp.evalWith_ite {σ α} (step : String → σ → Option σ) (cond : String → σ → Option Bool)
    (ret : String → σ → Option α) (c : String) (t e : SExp) :
    SExp.evalWith step cond ret (.ite c t e) = fun s =>
      (cond c s).bind fun b => if b then SExp.evalWith step cond ret t s else SExp.evalWith step cond ret e s := by
  funext s; rw [SExp.evalWith]; rcases cond c s with _ | _ | _ <;> rfl

theorem SExp.evalWith_ret {σ α} (step : String → σ → Option σ) (cond : String → σ → Option Bool)
    (ret : String → σ → Option α) (e : String) :
    SExp.evalWith step cond ret (.ret e) = ret e := by
  funext s; rw [SExp.evalWith]

end Dht
