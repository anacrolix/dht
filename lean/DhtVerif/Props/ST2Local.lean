/- T1 by translation (DESIGN.md 12.3a): security.go `isLocalNetwork` (the BEP 42 exemption). -/
import DhtVerif.Lemmas.SourceTrees
import DhtVerif.Props.STCommon
import DhtVerif.Model.SourceTrees2
import DhtVerif.Model.Server
import DhtVerif.Lemmas.C17
namespace Dht
open Gen (DExp SExp)

/-- the networks `init` parses into `classA`, `classB`, `classC` -/
def ilnInitExpected : List String :=
  ["classA = mustParseCIDRIPNet(\"10.0.0.0/8\")", "classB = mustParseCIDRIPNet(\"172.16.0.0/12\")",
   "classC = mustParseCIDRIPNet(\"192.168.0.0/16\")"]

/-- `(*net.IPNet).Contains(ip)` for an IPv4 network (number and mask as 4 bytes): `ip.To4()` must succeed and
agree with the network number under the mask. -/
def netContains4 (net mask ip : List UInt8) : Bool :=
  match to4 ip with
  | some v4 => inPrefix v4 net mask
  | none => false

/-- `classA/B/C` as in `ilnInitExpected`; `net.IP.IsLinkLocalUnicast` (169.254/16, fe80::/10) and
`net.IP.IsLoopback` (127/8, ::1) as in the Go standard library. -/
def ilnCond (ip : List UInt8) : String → Option Bool
  | "classA.Contains(ip)" => some (netContains4 [10, 0, 0, 0] [255, 0, 0, 0] ip)
  | "classB.Contains(ip)" => some (netContains4 [172, 16, 0, 0] [255, 240, 0, 0] ip)
  | "classC.Contains(ip)" => some (netContains4 [192, 168, 0, 0] [255, 255, 0, 0] ip)
  | "ip.IsLinkLocalUnicast()" => some (
    match to4 ip with
    | some v4 => v4.getD 0 0 == 169 && v4.getD 1 0 == 254
    | none => ip.length == 16 && (ip.getD 0 0 == 0xfe && ip.getD 1 0 &&& 0xc0 == 0x80))
  | "ip.IsLoopback()" => some (
    match to4 ip with
    | some v4 => v4.getD 0 0 == 127
    | none => ip == [0, 0, 0, 0, 0, 0, 0, 0, 0, 0, 0, 0, 0, 0, 0, 1])
  | _ => none


private theorem st2_inPrefix_ll (a b c d : UInt8) :
    inPrefix [a, b, c, d] [169, 254, 0, 0] [255, 255, 0, 0] = (a == 169 && b == 254) := by
  simp [inPrefix, C17.u8_and_255]

private theorem st2_inPrefix_lo (a b c d : UInt8) :
    inPrefix [a, b, c, d] [127, 0, 0, 0] [255, 0, 0, 0] = (a == 127) := by
  simp [inPrefix, C17.u8_and_255]

/-- `isLocalNetwork` in security.go (with the networks of `init`) computes exactly the model's `isLocalNetwork`. -/
theorem SourceTrees.isLocalNetwork (ip : List UInt8) :
    Gen.treeSecurityInitLets = ilnInitExpected ∧
    DExp.evalWith (ilnCond ip) boolRet Gen.treeIsLocalNetwork = some (Dht.isLocalNetwork ip) := by
  refine ⟨rfl, ?_⟩
  unfold boolRet
  -- the chain of `return true`s becomes the disjunction of its five tests
  simp only [Gen.treeIsLocalNetwork, DExp.evalWith_ite, DExp.evalWith_ret, ilnCond, Option.bind_some, netContains4,
    Dht.isLocalNetwork, ite_some_true, Bool.or_false]
  cases h : to4 ip with
  | none =>
    simp only [Bool.false_or]
    by_cases hl : ip.length = 16
    · simp only [hl, beq_self_eq_true, Bool.true_and, if_true]
    · -- the model tests the length once, the library in each of its two tests
      have h2 : (ip == [0, 0, 0, 0, 0, 0, 0, 0, 0, 0, 0, 0, 0, 0, 0, 1]) = false :=
        beq_false_of_ne fun e => hl (e ▸ rfl)
      simp only [hl, h2, beq_false_of_ne hl, Bool.false_and, Bool.or_false, if_false]
  | some v4 =>
    match v4, C17.to4_length ip v4 h with
    | [a, b, c, d], _ =>
      simp only [st2_inPrefix_ll, st2_inPrefix_lo, List.getD_cons_zero, List.getD_cons_succ, Bool.or_assoc]

/-- Non-vacuity: the equation on concrete addresses of every kind the function distinguishes. -/
example :
    DExp.evalWith (ilnCond [10, 1, 2, 3]) boolRet Gen.treeIsLocalNetwork = some true ∧
    DExp.evalWith (ilnCond [172, 31, 2, 3]) boolRet Gen.treeIsLocalNetwork = some true ∧
    DExp.evalWith (ilnCond [172, 32, 2, 3]) boolRet Gen.treeIsLocalNetwork = some false ∧
    DExp.evalWith (ilnCond [0, 0, 0, 0, 0, 0, 0, 0, 0, 0, 0xff, 0xff, 192, 168, 2, 3]) boolRet Gen.treeIsLocalNetwork = some true ∧
    DExp.evalWith (ilnCond [0xfe, 0x80, 0, 0, 0, 0, 0, 0, 0, 0, 0, 0, 0, 0, 0, 9]) boolRet Gen.treeIsLocalNetwork = some true ∧
    DExp.evalWith (ilnCond [0, 0, 0, 0, 0, 0, 0, 0, 0, 0, 0, 0, 0, 0, 0, 1]) boolRet Gen.treeIsLocalNetwork = some true ∧
    DExp.evalWith (ilnCond [8, 8, 8, 8]) boolRet Gen.treeIsLocalNetwork = some false := by
  simp only [(SourceTrees.isLocalNetwork _).2]
  decide +kernel

/-- Negative check with known atoms only: the 172.16/12 test dropped. 172.16.0.1 is local for the source and
the model, not for the changed tree. -/
def treeIsLocalNetworkMutNoB : DExp := DExp.ite "classA.Contains(ip)" (DExp.ret "true") (DExp.ite "classC.Contains(ip)" (DExp.ret "true") (DExp.ite "ip.IsLinkLocalUnicast()" (DExp.ret "true") (DExp.ite "ip.IsLoopback()" (DExp.ret "true") (DExp.ret "false"))))

theorem treeIsLocalNetworkMutNoB_wrong :
    DExp.evalWith (ilnCond [172, 16, 0, 1]) boolRet treeIsLocalNetworkMutNoB = some false ∧
    isLocalNetwork [172, 16, 0, 1] = true := by
  unfold boolRet
  simp only [treeIsLocalNetworkMutNoB, DExp.evalWith_ite, DExp.evalWith_ret, ilnCond, Option.bind_some]
  decide +kernel

example :
    DExp.evalWith (ilnCond [172, 16, 0, 1]) boolRet treeIsLocalNetworkMutNoB = some false ∧
    isLocalNetwork [172, 16, 0, 1] = true :=
  treeIsLocalNetworkMutNoB_wrong

example : ¬ ∀ ip : List UInt8,
    DExp.evalWith (ilnCond ip) boolRet treeIsLocalNetworkMutNoB = some (isLocalNetwork ip) := by
  intro h
  have w := treeIsLocalNetworkMutNoB_wrong
  rw [h, w.2] at w
  exact absurd w.1 (by simp)

/-- Negative check: the loopback test negated. Unknown atom: no value for any address that is not local for
one of the earlier reasons. -/
def treeIsLocalNetworkMutLoop : DExp := DExp.ite "classA.Contains(ip)" (DExp.ret "true") (DExp.ite "classB.Contains(ip)" (DExp.ret "true") (DExp.ite "classC.Contains(ip)" (DExp.ret "true") (DExp.ite "ip.IsLinkLocalUnicast()" (DExp.ret "true") (DExp.ite "!ip.IsLoopback()" (DExp.ret "true") (DExp.ret "false")))))

example : DExp.evalWith (ilnCond [8, 8, 8, 8]) boolRet treeIsLocalNetworkMutLoop = none ∧
    DExp.evalWith (ilnCond [0, 0, 0, 0, 0, 0, 0, 0, 0, 0, 0, 0, 0, 0, 0, 1]) boolRet treeIsLocalNetworkMutLoop = none := by
  simp only [treeIsLocalNetworkMutLoop, DExp.evalWith_ite, DExp.evalWith_ret, ilnCond, Option.bind_some]
  decide +kernel

/-- Negative check: a changed network in `init` (172.16/12 → 172.16/16) is seen by the first conjunct. -/
example : ["classA = mustParseCIDRIPNet(\"10.0.0.0/8\")", "classB = mustParseCIDRIPNet(\"172.16.0.0/16\")",
   "classC = mustParseCIDRIPNet(\"192.168.0.0/16\")"] ≠ ilnInitExpected := by decide +kernel


theorem SourceTrees.isLocalNetwork_no_skipped_statements : Gen.treeIsLocalNetworkLets = [] := by decide

end Dht
