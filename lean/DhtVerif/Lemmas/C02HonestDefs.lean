/-
Definitions for C02Honest (the last sentence of C02): a finite network, its K
closest nodes, and what it means for a lookup history to be answered honestly.
Only definitions live here; the lemmas are in Lemmas/C02Honest*.lean and the
property theorems in Props/C02Honest.lean.
-/
import DhtVerif.Model.Traversal
import DhtVerif.Lemmas.C18Order
namespace Dht

/-- A network node: its ID and its address. -/
abbrev NetNode := Id × Addr

/-- XOR distance of a network node to the target, as a number (the same number
`KElem.dist` assigns to a member of the closest set with that ID). -/
def netDist (t : Id) (n : NetNode) : Nat := (Id.distance n.1 t).toNat

/-- The network nodes strictly closer to the target than `n`. -/
def closerNodes (t : Id) (net : List NetNode) (n : NetNode) : List NetNode :=
  net.filter (fun m => decide (netDist t m < netDist t n))

/-- The K closest nodes of the network: the nodes that have fewer than `k`
network nodes strictly closer to the target than themselves. (For a
well-formed network distances are pairwise different, so these are exactly
`min k |net|` nodes: `kClosest_length`, and they are the first `k` of the
network sorted by distance: `mem_kClosest_iff_take`.) -/
def kClosest (t : Id) (k : Nat) (net : List NetNode) : List NetNode :=
  net.filter (fun n => decide ((closerNodes t net n).length < k))

/-- A finite network: 20-byte IDs, no ID twice, no (printed) address twice, every address valid. -/
structure NetWF (net : List NetNode) : Prop where
  idLen : ∀ n ∈ net, n.1.length = 20
  idNodup : (net.map (·.1)).Nodup
  addrNodup : (net.map (fun n => n.2.strKey)).Nodup
  addrValid : ∀ n ∈ net, n.2.rank ≠ 0

/-- A network node as a candidate with its true ID (what a reply's node list carries). -/
def NetNode.cand (n : NetNode) : Cand := ⟨some n.1, n.2⟩

/-- The answer of the node at address `a` is *honest* for the network:
the address belongs to a network node, the responder ID is that node's ID, the
data it supplies is acceptable to the data filter (for a `get_peers`-style lookup:
any token), every candidate it lists is well-formed (a known ID has 20 bytes), and the two node
lists together contain every one of the K closest nodes of the network with its
true ID (in any order, split in any way between `nodes` and `nodes6`). -/
def HonestReply (c : TravCfg) (net : List NetNode) (a : Addr) (r : QResult) : Prop :=
  (∃ id, (id, a) ∈ net ∧ r.responder = some id) ∧
  c.dataFilter r.data = true ∧
  (∀ x ∈ r.nodes ++ r.nodes6, x.ok) ∧
  (∀ n ∈ kClosest c.target c.k net, n.cand ∈ r.nodes ++ r.nodes6)

/-- The literal reading: the reply lists *exactly* the K closest nodes of the network. -/
def ExactReply (c : TravCfg) (net : List NetNode) (a : Addr) (r : QResult) : Prop :=
  (∃ id, (id, a) ∈ net ∧ r.responder = some id) ∧
  c.dataFilter r.data = true ∧
  (∀ x, x ∈ r.nodes ++ r.nodes6 ↔ ∃ n ∈ kClosest c.target c.k net, x = n.cand)

/-- One event of an honest history: contacts handed in from outside (seeds, late
`AddNodes`) are well-formed candidates — they may carry any 20-byte ID or none; every query that returns
returns an honest reply (in particular: it *does* answer, with its ID). The other
events are internal steps of the lookup and unconstrained. -/
def HonestEv (c : TravCfg) (net : List NetNode) : TravEv → Prop
  | .addNodes ns => ∀ x ∈ ns, x.ok
  | .queryReturn a r => HonestReply c net a r
  | _ => True

def HonestHist (c : TravCfg) (net : List NetNode) (evs : List TravEv) : Prop :=
  ∀ e ∈ evs, HonestEv c net e

/-- The literal reading of the sentence: seeds name network nodes (with their true ID or
without ID) and every reply lists exactly the K closest nodes. -/
def ExactEv (c : TravCfg) (net : List NetNode) : TravEv → Prop
  | .addNodes ns => ∀ x ∈ ns, ∃ n ∈ net, x.addr = n.2 ∧ (x.id = some n.1 ∨ x.id = none)
  | .queryReturn a r => ExactReply c net a r
  | _ => True

def ExactHist (c : TravCfg) (net : List NetNode) (evs : List TravEv) : Prop :=
  ∀ e ∈ evs, ExactEv c net e

/-- The (ID, address) pairs held by the closest set. -/
def closestNodes (s : Trav) : List NetNode := s.closest.map (fun m => (m.id, m.addr))

end Dht
