/-
`Addr.cmp` and `candCompare` are lexicographic comparisons of a key (`Addr.key`, `Cand.key`), so that they are
transitive and oriented is core's `TransCmp` instance for `compareOn`; what is left to prove here is that the key
determines the value (for candidates: under the length condition that makes the distance injective).
-/
import DhtVerif.Lemmas.C18Id
namespace Dht
open Std

attribute [local instance] lexOrd

def Addr.key (a : Addr) : Nat × Id × Nat := (a.rank, a.ip, a.port)

theorem Addr.cmp_eq_compareOn : Addr.cmp = compareOn Addr.key := by
  funext l r
  rw [Addr.cmp, ite_lt_gt_eq_then, Id.cmp_eq_compare]
  show _ = (compare l.rank r.rank).then ((compare l.ip r.ip).then (compare l.port r.port))
  cases compare l.ip r.ip <;> rfl

instance : TransCmp Addr.cmp := Addr.cmp_eq_compareOn ▸ inferInstance

instance : LawfulEqCmp Addr.cmp where
  compare_self := ReflCmp.compare_self
  eq_of_compare {a b} h := by
    rw [Addr.cmp_eq_compareOn, compareOn, compare_eq_iff_eq] at h
    cases a; cases b; simpa [Addr.key] using h

theorem Addr.cmp_lt_asymm (a b : Addr) (h1 : a.cmp b = .lt) : ¬ b.cmp a = .lt :=
  OrientedCmp.not_lt_of_lt h1

/-- Known IDs first, among them by distance, then by address. -/
def Cand.key (t : Id) (c : Cand) : Bool × Option Id × Nat × Id × Nat :=
  (c.id.isNone, c.id.map (Id.distance · t), c.addr.key)

theorem closerThan_eq_compareOn (t : Id) : ∀ l r : Cand, closerThan t l r = (compareOn (Cand.key t) l r == .lt)
  | ⟨none, _⟩, ⟨none, _⟩ => by simp only [closerThan, Addr.cmp_eq_compareOn]; rfl
  | ⟨none, _⟩, ⟨some _, _⟩ => rfl
  | ⟨some _, _⟩, ⟨none, _⟩ => rfl
  | ⟨some li, la⟩, ⟨some ri, ra⟩ => by
    simp only [closerThan, Addr.cmp_eq_compareOn, Id.cmp_eq_compare]
    show _ = ((compare (Id.distance li t) (Id.distance ri t)).then (compareOn Addr.key la ra) == .lt)
    cases compare (Id.distance li t) (Id.distance ri t) <;> rfl

theorem candCompare_eq_compareOn (t : Id) : candCompare t = compareOn (Cand.key t) := by
  funext l r
  have := OrientedCmp.gt_iff_lt (cmp := compareOn (Cand.key t)) (a := l) (b := r)
  simp only [candCompare, closerThan_eq_compareOn, beq_iff_eq, ← this]
  cases compareOn (Cand.key t) l r <;> rfl

instance (t : Id) : TransCmp (candCompare t) := candCompare_eq_compareOn t ▸ inferInstance

theorem candCompare_lt (t : Id) (l r : Cand) : candCompare t l r = .lt ↔ closerThan t l r = true := by
  rw [closerThan_eq_compareOn, candCompare_eq_compareOn, beq_iff_eq]

theorem candCompare_gt (t : Id) (l r : Cand) : candCompare t l r = .gt → closerThan t r l = true :=
  fun h => (candCompare_lt t r l).mp (OrientedCmp.gt_iff_lt.mp h)

theorem candCompare_self (t : Id) (c : Cand) : candCompare t c c = .eq := ReflCmp.compare_self

theorem closerThan_irrefl (t : Id) (c : Cand) : closerThan t c c = false := by
  rw [← Bool.not_eq_true, ← candCompare_lt, candCompare_self]; simp

theorem closerThan_trans (t : Id) (a b c : Cand)
    (h1 : closerThan t a b = true) (h2 : closerThan t b c = true) : closerThan t a c = true := by
  rw [← candCompare_lt] at *; exact TransCmp.lt_trans h1 h2

theorem closerThan_asymm (t : Id) (l r : Cand) (h : closerThan t l r = true) :
    closerThan t r l = false := by
  rw [← candCompare_lt] at h
  rw [← Bool.not_eq_true, ← candCompare_lt]; exact OrientedCmp.not_lt_of_lt h

theorem closerThan_none_none (t : Id) (l r : Cand) (hl : l.id = none) (hr : r.id = none) :
    closerThan t l r = true ↔ l.addr.cmp r.addr = .lt := by
  unfold closerThan; simp [hl, hr]

theorem closerThan_some_none (t : Id) (l r : Cand) (li : Id) (hl : l.id = some li) (hr : r.id = none) :
    closerThan t l r = true := by
  unfold closerThan; simp [hl, hr]

theorem closerThan_none_some (t : Id) (l r : Cand) (ri : Id) (hl : l.id = none) (hr : r.id = some ri) :
    closerThan t l r = false := by
  unfold closerThan; simp [hl, hr]

theorem closerThan_some_some (t : Id) (l r : Cand) (li ri : Id)
    (hl : l.id = some li) (hr : r.id = some ri) :
    closerThan t l r = true ↔
      Id.cmp (Id.distance li t) (Id.distance ri t) = .lt ∨
        (Id.distance li t = Id.distance ri t ∧ l.addr.cmp r.addr = .lt) := by
  unfold closerThan
  simp only [hl, hr]
  cases hc : Id.cmp (Id.distance li t) (Id.distance ri t)
  · simp
  · simp [(Id.cmp_eq_iff _ _).mp hc]
  · have : Id.distance li t ≠ Id.distance ri t := fun e => by simp [e, Id.cmp_self] at hc
    simp [this]

theorem closerThan_by_distance (t : Id) (l r : Cand) (li ri : Id)
    (hl : l.id = some li) (hr : r.id = some ri)
    (hlen : li.length = t.length) (hlen' : ri.length = t.length)
    (hd : (Id.distance li t).toNat < (Id.distance ri t).toNat) :
    closerThan t l r = true := by
  rw [closerThan_some_some t _ _ li ri hl hr]
  left
  rw [Id.cmp_eq_compare_toNat _ _ (by simp [Id.distance, Id.xor_length, hlen, hlen']),
    Nat.compare_eq_lt]
  exact hd

/-- A known ID has 20 bytes, so that its distance to a 20-byte target determines it. -/
def Cand.ok (c : Cand) : Prop := ∀ i, c.id = some i → i.length = 20

/-- `Cand.ok` under the name the lemmas of this module are stated with. -/
def Cand.ok' (c : Cand) : Prop := ∀ i, c.id = some i → i.length = 20

theorem eq_of_candCompare_eq (t : Id) (ht : t.length = 20) (l r : Cand) (hl : l.ok') (hr : r.ok')
    (h : candCompare t l r = .eq) : l = r := by
  rw [candCompare_eq_compareOn, compareOn, compare_eq_iff_eq] at h
  obtain ⟨li, ⟨_, _, _⟩⟩ := l
  obtain ⟨ri, ⟨_, _, _⟩⟩ := r
  simp only [Cand.key, Addr.key, Prod.mk.injEq] at h
  obtain ⟨-, hd, rfl, rfl, rfl⟩ := h
  congr 1
  match li, ri, hd with
  | none, none, _ => rfl
  | some li, some ri, hd =>
    exact congrArg some (Id.xor_right_cancel t li ri (by rw [hl li rfl, ht]) (by rw [hr ri rfl, ht])
      (Option.some.inj hd))

theorem closerThan_total (t : Id) (l r : Cand) (ht : t.length = 20)
    (hl : l.ok') (hr : r.ok') (hne : l ≠ r) :
    closerThan t l r = true ∨ closerThan t r l = true := by
  rw [← candCompare_lt, ← candCompare_lt]
  cases hc : candCompare t l r
  · exact .inl rfl
  · exact absurd (eq_of_candCompare_eq t ht l r hl hr hc) hne
  · exact .inr (OrientedCmp.gt_iff_lt.mp hc)

abbrev SSet.pw (t : Id) (xs : List Cand) : Prop := xs.Pairwise (fun a b => closerThan t a b = true)

theorem SSet.mem_add_imp (t : Id) (xs : List Cand) (c x : Cand) (h : x ∈ SSet.add t xs c) :
    x = c ∨ x ∈ xs := by
  revert h
  fun_induction SSet.add t xs c <;> intro h
  case case3 => exact (List.mem_cons.mp h).imp_right (List.mem_cons_of_mem _) -- `.eq`: `c` takes the head's place
  case case4 ih => -- `.gt`: `c` goes into the tail
    rcases List.mem_cons.mp h with h | h
    · exact Or.inr (h ▸ List.mem_cons_self)
    · exact (ih h).imp_right (List.mem_cons_of_mem _)
  all_goals simpa using h

/-- No hypothesis on the candidates: an element that compares equal to `c` has the same key, and `c` takes
its place. -/
theorem SSet.add_pw (t : Id) (xs : List Cand) (c : Cand) (h : SSet.pw t xs) : SSet.pw t (SSet.add t xs c) := by
  fun_induction SSet.add t xs c with
  | case1 => simp
  | case2 x xs c hlt =>
    exact (pairwise_cons_cons_iff (closerThan_trans t) c x xs).mpr ⟨(candCompare_lt t c x).mp hlt, h⟩
  | case3 _ _ _ heq =>
    refine List.pairwise_cons.mpr ⟨fun y hy => ?_, h.of_cons⟩
    rw [← candCompare_lt, TransCmp.congr_left heq, candCompare_lt]
    exact List.rel_of_pairwise_cons h hy
  | case4 x xs c hgt ih =>
    refine List.pairwise_cons.mpr ⟨fun y hy => ?_, ih h.of_cons⟩
    rcases SSet.mem_add_imp t xs c y hy with rfl | hy
    · exact candCompare_gt t y x hgt
    · exact List.rel_of_pairwise_cons h hy

theorem SSet.mem_add (t : Id) (ht : t.length = 20) (xs : List Cand) (c x : Cand)
    (hok : ∀ y ∈ xs, y.ok') (hc : c.ok') :
    x ∈ SSet.add t xs c ↔ x = c ∨ x ∈ xs := by
  fun_induction SSet.add t xs c with
  | case1 => simp
  | case2 => simp
  | case3 y ys c heq =>
    cases eq_of_candCompare_eq t ht c y hc (hok y List.mem_cons_self) heq
    simp
  | case4 y ys c _ ih =>
    simp only [List.mem_cons, ih (fun z hz => hok z (List.mem_cons_of_mem _ hz)) hc]
    exact or_left_comm

theorem SSet.delete_sublist (t : Id) (xs : List Cand) (c : Cand) :
    (SSet.delete t xs c).Sublist xs := by
  fun_induction SSet.delete t xs c with
  | case1 => exact .slnil
  | case2 y ys => exact List.sublist_cons_self y ys
  | case3 y _ _ _ ih => exact ih.cons_cons y

theorem SSet.delete_head (t : Id) (a : Cand) (rest : List Cand) : SSet.delete t (a :: rest) a = rest := by
  simp [SSet.delete, candCompare_self]

theorem SSet.mem_delete (t : Id) (ht : t.length = 20) (xs : List Cand) (c x : Cand)
    (hok : ∀ y ∈ xs, y.ok') (hc : c.ok') (hp : SSet.pw t xs) :
    x ∈ SSet.delete t xs c ↔ x ∈ xs ∧ x ≠ c := by
  fun_induction SSet.delete t xs c with
  | case1 => simp
  | case2 y ys c heq =>
    cases eq_of_candCompare_eq t ht c y hc (hok y List.mem_cons_self) heq
    have : ∀ z ∈ ys, z ≠ y := fun z hz e => by simpa [e, closerThan_irrefl] using List.rel_of_pairwise_cons hp hz
    simp only [List.mem_cons]
    exact ⟨fun hx => ⟨Or.inr hx, this x hx⟩, fun ⟨hx, hne⟩ => hx.resolve_left hne⟩
  | case3 y ys c hneq ih =>
    have hcy : y ≠ c := fun e => hneq (e ▸ candCompare_self t c)
    simp only [List.mem_cons, ih (fun z hz => hok z (List.mem_cons_of_mem _ hz)) hc hp.of_cons]
    exact ⟨fun h => h.elim (fun e => ⟨Or.inl e, e ▸ hcy⟩) (fun h => ⟨Or.inr h.1, h.2⟩),
      fun ⟨h, hne⟩ => h.imp_right (⟨·, hne⟩)⟩

end Dht
