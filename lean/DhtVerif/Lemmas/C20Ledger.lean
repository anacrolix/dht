/- The accounting behind the send budget, in numbers. -/
import DhtVerif.Model.Rate
import DhtVerif.Lemmas.Basic
namespace Dht

/-- The books of a token bucket, in numbers: `U` units per token, size `C`, `p` units accruing per
ns since `t0`; `tok` units stored at instant `last`; `L` the scaled instants at which the grants that
count are covered, `R` tokens given back, `W` units wasted by cancellations.
`budget` is `U·(|L| − R) + tok + W ≤ C + p·(last − t0)`; `covered`: whatever debt remains at a
future scaled instant `X` is covered by the grants due after `X`, up to the waste. Both speak of
`tok` and `last` only through `tok − p·last`, which accrual without the cap leaves alone. `take` and `refund` are
stated at `last = now`, the state `advance` leaves. -/
structure Ledger (U C p t0 : Nat) (tok : Int) (last now : Nat) (L : List Nat) (R : Nat) (W : Int) : Prop where
  wpos : 0 ≤ W
  budget : ((U * L.length : Nat) : Int) + tok + W + ((p * t0 : Nat) : Int)
    ≤ (C : Int) + ((p * last : Nat) : Int) + ((U * R : Nat) : Int)
  covered : ∀ X : Nat, p * now ≤ X →
    0 ≤ tok + (X : Int) - ((p * last : Nat) : Int) + ((U * L.countP (fun g => decide (X < g)) : Nat) : Int) + W

namespace Ledger
variable {U C p t0 : Nat} {tok T ρ : Int} {last now now' : Nat} {L L' : List Nat} {R g : Nat} {W W' : Int}

/-- A fresh limiter: the bucket is full and nothing has been granted. -/
theorem init : Ledger U C p t0 C t0 t0 [] 0 0 :=
  ⟨Int.le_refl _, by simp, fun X hX => by simp only [List.countP_nil, Nat.mul_zero]; omega⟩

theorem perm (h : L.Perm L') (l : Ledger U C p t0 tok last now L R W) : Ledger U C p t0 tok last now L' R W :=
  ⟨l.wpos, h.length_eq ▸ l.budget, fun X hX => h.countP_eq _ ▸ l.covered X hX⟩

theorem adv (h : now ≤ now') (l : Ledger U C p t0 tok last now L R W) : Ledger U C p t0 tok last now' L R W :=
  ⟨l.wpos, l.budget, fun X hX => l.covered X (Nat.le_trans (Nat.mul_le_mul_left p h) hX)⟩

/-- rate.go's `advance`: `T` is what accrual up to `now`, capped, makes of `tok`. Every operation
of the limiter does this first. -/
theorem advance (l : Ledger U C p t0 tok last now L R W) (hl : last ≤ now)
    (hT : T = min (C : Int) (tok + ((p * now : Nat) : Int) - ((p * last : Nat) : Int))) :
    Ledger U C p t0 T now now L R W := by
  have hm := Nat.mul_le_mul_left p hl
  refine ⟨l.wpos, ?_, fun X hX => ?_⟩
  · have hb := l.budget
    omega
  · have hc := l.covered X hX
    have hw := l.wpos
    omega

/-- One token is taken at `now`; it is covered at `p·now + (U − tok)⁺`. -/
theorem take (l : Ledger U C p t0 tok now now L R W) :
    Ledger U C p t0 (tok - U) now now ((p * now + ((U : Int) - tok).toNat) :: L) R W := by
  refine ⟨l.wpos, ?_, fun X hX => ?_⟩
  · have hb := l.budget
    rw [List.length_cons, Nat.mul_succ]; omega
  · have hc := l.covered X hX
    have hw := l.wpos
    rw [List.countP_cons]
    split <;> rename_i hg <;> simp only [decide_eq_true_eq] at hg
    · rw [Nat.mul_succ]; omega
    · rw [Nat.add_zero]; omega

theorem give (l : Ledger U C p t0 tok last now L R W) : Ledger U C p t0 (tok + U) last now L (R + 1) W := by
  refine ⟨l.wpos, ?_, fun X hX => ?_⟩
  · have hb := l.budget
    rw [Nat.mul_succ]; omega
  · have hc := l.covered X hX
    omega

/-- A grant stops counting and its token is lost. -/
theorem drop (l : Ledger U C p t0 tok last now (g :: L) R W) : Ledger U C p t0 tok last now L R (W + U) := by
  have hb := l.budget
  have hw := l.wpos
  refine ⟨by omega, ?_, fun X hX => ?_⟩
  · rw [List.length_cons, Nat.mul_succ] at hb; omega
  · have hc := l.covered X hX
    rw [List.countP_cons] at hc
    split at hc
    · rw [Nat.mul_succ] at hc; omega
    · rw [Nat.add_zero] at hc; omega

/-- `ρ` units of the waste come back into the bucket, up to the cap. -/
theorem refund (l : Ledger U C p t0 tok now now L R W) (hW : 0 ≤ W') (he : W' + ρ = W) :
    Ledger U C p t0 (min (C : Int) (tok + ρ)) now now L R W' := by
  refine ⟨hW, ?_, fun X hX => ?_⟩
  · have hb := l.budget
    omega
  · have hc := l.covered X hX
    omega

/-- The prefix bound: the grants covered by now, net of give-backs, are within `C + p·(now − t0)`. -/
theorem prefix_bound (l : Ledger U C p t0 tok last now L R W) :
    U * L.countP (fun g => decide (g ≤ p * now)) + p * t0 ≤ C + p * now + U * R := by
  have hb := l.budget
  have hc := l.covered (p * now) (Nat.le_refl _)
  have hw := l.wpos
  rw [length_eq_countP_le_add_gt (p * now) L, Nat.mul_add] at hb
  omega

end Ledger
end Dht
