/- The micro-step model under the wrapper lock. -/
import DhtVerif.Lemmas.B44
namespace Dht.B44

theorem setThread_same (f : Nat → TState) (i : Nat) (x : TState) : setThread f i x i = x := by
  simp [setThread]

theorem setThread_other {f : Nat → TState} {i j : Nat} {x : TState} (h : j ≠ i) : setThread f i x j = f j := by
  simp [setThread, h]

theorem replay_append (P : Params) (exp : Nat) (s : Store) (l : List Commit) (c : Commit) :
    replay P exp s (l ++ [c]) = applyCommit P exp (replay P exp s l) c := by
  simp [replay, List.foldl_append]

/-- Between store calls a thread is either not started or finished. -/
def TState.idle : TState → Prop
  | .init _ => True
  | .done _ => True
  | _ => False

/-- How the store may change in one micro-step: per target the sequence number does not go
down, and an entry disappears only through the `Del` of a `Get` that saw it expired. -/
def ConcStep (exp : Nat) (y y' : Sys) : Prop :=
  ∀ t a, y.store t = some a →
    match y'.store t with
    | some b => a.item.seq ≤ b.item.seq
    | none => ∃ tid g, y.threads tid = .delReady t g ∧ a.created + exp ≤ g

/-- The invariant of the micro-step machine when Put/Get hold the lock. -/
structure LockInv (P : Params) (exp : Nat) (s0 : Store) (ops : List Op) (y : Sys) : Prop where
  store_eq : y.store = replay P exp s0 y.log
  checked  : ∀ j i, y.threads j = .init (.put i) → check P i = none
  init_ops : ∀ j op, y.threads j = .init op → ops[j]? = some op
  log_ops  : ∀ c, c ∈ y.log → ops[c.tid]? = some c.op
  log_done : ∀ c, c ∈ y.log → ∃ r, y.threads c.tid = .done r
  log_nodup : (y.log.map (·.tid)).Nodup
  done_logged : ∀ j r, y.threads j = .done r →
    (∃ c, c ∈ y.log ∧ c.tid = j) ∨ (Sys.init P s0 ops).threads j = .done r
  pending  : match y.lock with
    | none => ∀ j, (y.threads j).idle
    | some k => (∀ j, j ≠ k → (y.threads j).idle) ∧
        ((∃ it, y.threads k = .putReady it ∧ ops[k]? = some (.put it) ∧
            ∀ now, Wrapper.put P now y.store it = (y.store.set (target P it) ⟨it, now⟩, none)) ∨
         (∃ t g, y.threads k = .delReady t g ∧ ops[k]? = some (.get t) ∧
            Wrapper.get exp g y.store t = (y.store.del t, none)))

theorem LockInv.init (P : Params) (exp : Nat) (s0 : Store) (ops : List Op) :
    LockInv P exp s0 ops (Sys.init P s0 ops) := by
  have hstart : ∀ j, ((Sys.init P s0 ops).threads j).idle ∧ ∀ op, (Sys.init P s0 ops).threads j = .init op →
      ops[j]? = some op ∧ ∀ i, op = .put i → check P i = none := by
    intro j
    simp only [Sys.init]
    cases ops[j]? with
    | none => exact ⟨trivial, fun _ h => nomatch h⟩
    | some o =>
      cases o with
      | put i =>
        simp only [TState.start]
        cases hc : check P i with
        | some e => exact ⟨trivial, fun _ h => nomatch h⟩
        | none => exact ⟨trivial, fun _ h => by cases h; exact ⟨rfl, fun _ hi => by cases hi; exact hc⟩⟩
      | get t => exact ⟨trivial, fun _ h => by cases h; exact ⟨rfl, nofun⟩⟩
  refine ⟨rfl, ?_, ?_, ?_, ?_, ?_, ?_, ?_⟩
  · intro j i h; exact ((hstart j).2 _ h).2 i rfl
  · intro j op h; exact ((hstart j).2 op h).1
  · intro c hc; cases hc
  · intro c hc; cases hc
  · exact List.nodup_nil
  · intro j r h; exact Or.inr h
  · exact fun j => (hstart j).1

theorem LockInv.holder {P : Params} {exp : Nat} {s0 : Store} {ops : List Op} {y : Sys}
    (h : LockInv P exp s0 ops y) (tid : Nat) (hn : ¬ (y.threads tid).idle) : y.lock = some tid := by
  have hp := h.pending
  cases hl : y.lock with
  | none => rw [hl] at hp; exact absurd (hp tid) hn
  | some k =>
    rw [hl] at hp
    by_cases hk : tid = k
    · rw [hk]
    · exact absurd (hp.1 tid hk) hn

/-- What the invariant records of a thread between its `Get` and its `Put`. -/
theorem LockInv.pending_put {P : Params} {exp : Nat} {s0 : Store} {ops : List Op} {y : Sys}
    (h : LockInv P exp s0 ops y) {tid : Nat} {i : Item} (hth : y.threads tid = .putReady i) :
    (∀ j, j ≠ tid → (y.threads j).idle) ∧ ops[tid]? = some (.put i) ∧
      ∀ now, Wrapper.put P now y.store i = (y.store.set (target P i) ⟨i, now⟩, none) := by
  have hp := h.pending
  rw [h.holder tid (by rw [hth]; exact id)] at hp
  rcases hp.2 with ⟨it, hit, hop, hput⟩ | ⟨t, g, hit, _, _⟩
  · rw [hth] at hit; cases hit; exact ⟨hp.1, hop, hput⟩
  · rw [hth] at hit; cases hit

/-- What the invariant records of a thread between its `Get` and its `Del`. -/
theorem LockInv.pending_del {P : Params} {exp : Nat} {s0 : Store} {ops : List Op} {y : Sys}
    (h : LockInv P exp s0 ops y) {tid : Nat} {t : Target} {g : Nat} (hth : y.threads tid = .delReady t g) :
    (∀ j, j ≠ tid → (y.threads j).idle) ∧ ops[tid]? = some (.get t) ∧
      Wrapper.get exp g y.store t = (y.store.del t, none) := by
  have hp := h.pending
  rw [h.holder tid (by rw [hth]; exact id)] at hp
  rcases hp.2 with ⟨it, hit, _, _⟩ | ⟨t', g', hit, hop, hget⟩
  · rw [hth] at hit; cases hit
  · rw [hth] at hit; cases hit; exact ⟨hp.1, hop, hget⟩

theorem Sys.step_store {P : Params} {exp : Nat} {lock : Bool} {y y' : Sys} {tid now : Nat}
    (hs : y.step P exp lock tid now = some y') :
    y'.store = y.store ∨
    (∃ i, y.threads tid = .putReady i ∧ y'.store = y.store.set (target P i) ⟨i, now⟩) ∨
    (∃ t g, y.threads tid = .delReady t g ∧ y'.store = y.store.del t) := by
  revert hs
  fun_cases Sys.step P exp lock y tid now <;> intro hs <;> cases hs
  case case10 i hth => exact Or.inr (Or.inl ⟨i, hth, rfl⟩) -- second call of a put: the write
  case case11 t g hth => exact Or.inr (Or.inr ⟨t, g, hth, rfl⟩) -- second call of a get: the delete
  -- a first call only reads
  all_goals exact Or.inl rfl

/-- A thread's operation takes effect (its last store call, or its only one). -/
theorem LockInv.commit (P : Params) (exp : Nat) (s0 : Store) (ops : List Op) (y y' : Sys)
    (h : LockInv P exp s0 ops y) (tid : Nat) (c : Commit) (r : Res)
    (hothers : ∀ j, j ≠ tid → (y.threads j).idle) (hnd : ∀ r, y.threads tid ≠ .done r)
    (hct : c.tid = tid) (hop : ops[tid]? = some c.op)
    (hstore : y'.store = applyCommit P exp y.store c)
    (hthreads : y'.threads = setThread y.threads tid (.done r))
    (hlock : y'.lock = none) (hlog : y'.log = y.log ++ [c]) : LockInv P exp s0 ops y' := by
  have hother : ∀ j, j ≠ tid → y'.threads j = y.threads j := fun j hj => by rw [hthreads, setThread_other hj]
  have hself : y'.threads tid = .done r := by rw [hthreads, setThread_same]
  have hnotin : ∀ c', c' ∈ y.log → c'.tid ≠ tid := by
    intro c' hc' he
    obtain ⟨r', hr'⟩ := h.log_done c' hc'
    rw [he] at hr'; exact hnd r' hr'
  refine ⟨?_, ?_, ?_, ?_, ?_, ?_, ?_, ?_⟩
  · rw [hstore, hlog, replay_append, ← h.store_eq]
  · intro j i hj
    by_cases hjt : j = tid
    · rw [hjt, hself] at hj; cases hj
    · rw [hother j hjt] at hj; exact h.checked j i hj
  · intro j op hj
    by_cases hjt : j = tid
    · rw [hjt, hself] at hj; cases hj
    · rw [hother j hjt] at hj; exact h.init_ops j op hj
  · rw [hlog, List.forall_mem_append, List.forall_mem_singleton, hct]
    exact ⟨h.log_ops, hop⟩
  · rw [hlog, List.forall_mem_append, List.forall_mem_singleton, hct]
    refine ⟨fun c' hc' => ?_, r, hself⟩
    rw [hother _ (hnotin c' hc')]; exact h.log_done c' hc'
  · rw [hlog, List.map_append, List.nodup_append]
    refine ⟨h.log_nodup, by simp, ?_⟩
    intro a ha b hb
    simp at hb
    obtain ⟨c', hc', hca⟩ := List.mem_map.mp ha
    intro he
    exact hnotin c' hc' (by rw [hca, he, hb, hct])
  · intro j r' hj
    by_cases hjt : j = tid
    · exact Or.inl ⟨c, by rw [hlog]; simp, by rw [hct, hjt]⟩
    · rw [hother j hjt] at hj
      rcases h.done_logged j r' hj with ⟨c', hc', hcj⟩ | hi
      · exact Or.inl ⟨c', by rw [hlog]; exact List.mem_append_left _ hc', hcj⟩
      · exact Or.inr hi
  · rw [hlock]
    intro j
    by_cases hjt : j = tid
    · rw [hjt, hself]; trivial
    · rw [hother j hjt]; exact hothers j hjt

/-- A thread makes its first store call and keeps the lock. -/
theorem LockInv.acquire (P : Params) (exp : Nat) (s0 : Store) (ops : List Op) (y y' : Sys)
    (h : LockInv P exp s0 ops y) (tid : Nat) (op : Op) (mid : TState)
    (hl : y.lock = none) (hth : y.threads tid = .init op)
    (hstore : y'.store = y.store) (hlog : y'.log = y.log)
    (hthreads : y'.threads = setThread y.threads tid mid) (hlock : y'.lock = some tid)
    (hmid : (∃ it, mid = .putReady it ∧ ops[tid]? = some (.put it) ∧
              ∀ now, Wrapper.put P now y.store it = (y.store.set (target P it) ⟨it, now⟩, none)) ∨
            (∃ t g, mid = .delReady t g ∧ ops[tid]? = some (.get t) ∧
              Wrapper.get exp g y.store t = (y.store.del t, none))) : LockInv P exp s0 ops y' := by
  have hother : ∀ j, j ≠ tid → y'.threads j = y.threads j := fun j hj => by rw [hthreads, setThread_other hj]
  have hself : y'.threads tid = mid := by rw [hthreads, setThread_same]
  have hidle : ∀ j, (y.threads j).idle := by have := h.pending; rw [hl] at this; exact this
  have hmid_ni : ¬ mid.idle := by
    rcases hmid with ⟨it, hm, _⟩ | ⟨t, g, hm, _⟩ <;> rw [hm] <;> exact id
  refine ⟨?_, ?_, ?_, ?_, ?_, ?_, ?_, ?_⟩
  · rw [hstore, hlog]; exact h.store_eq
  · intro j i hj
    by_cases hjt : j = tid
    · rw [hjt, hself] at hj; exact absurd (hj ▸ trivial) hmid_ni
    · rw [hother j hjt] at hj; exact h.checked j i hj
  · intro j o hj
    by_cases hjt : j = tid
    · rw [hjt, hself] at hj; exact absurd (hj ▸ trivial) hmid_ni
    · rw [hother j hjt] at hj; exact h.init_ops j o hj
  · intro c hc; rw [hlog] at hc; exact h.log_ops c hc
  · intro c hc
    rw [hlog] at hc
    obtain ⟨r, hr⟩ := h.log_done c hc
    have : c.tid ≠ tid := by intro he; rw [he, hth] at hr; cases hr
    exact ⟨r, by rw [hother _ this]; exact hr⟩
  · rw [hlog]; exact h.log_nodup
  · intro j r' hj
    by_cases hjt : j = tid
    · rw [hjt, hself] at hj; exact absurd (hj ▸ trivial) hmid_ni
    · rw [hother j hjt] at hj; rw [hlog]; exact h.done_logged j r' hj
  · rw [hlock]
    refine ⟨fun j hj => by rw [hother j hj]; exact hidle j, ?_⟩
    rw [hself, hstore]
    exact hmid

theorem LockInv.step {P : Params} {exp : Nat} {s0 : Store} {ops : List Op} {y y' : Sys}
    (h : LockInv P exp s0 ops y) {tid now : Nat} (hs : y.step P exp true tid now = some y') :
    LockInv P exp s0 ops y' := by
  have free : ¬ (true && y.lock.isSome) = true → y.lock = none ∧ ∀ j, j ≠ tid → (y.threads j).idle := by
    intro hl
    have hp := h.pending
    cases hlk : y.lock with
    | some k => rw [hlk] at hl; exact absurd rfl hl
    | none => rw [hlk] at hp; exact ⟨rfl, fun j _ => hp j⟩
  have hnd : ∀ r, y.threads tid ≠ .done r := fun r hr => by simp [Sys.step, hr] at hs
  revert hs
  fun_cases Sys.step P exp true y tid now <;> intro hs <;> cases hs
  case case3 i hth hl hst => -- put, first call: nothing stored under the target
    exact h.acquire P exp s0 ops y _ tid _ (.putReady i) (free hl).1 hth
      (hstore := rfl) (hlog := rfl) (hthreads := rfl) (hlock := rfl)
      (Or.inl ⟨i, rfl, h.init_ops tid _ hth, fun now' =>
        Wrapper.put_of_admits now' (h.checked tid i hth) fun st h => by rw [hst] at h; cases h⟩)
  case case4 i hth hl st hst e hci => -- put, first call: `CheckIncoming` refuses, the put is over
    exact h.commit P exp s0 ops y _ tid ⟨tid, .put i, now⟩ (.err e) (free hl).2
      hnd rfl (h.init_ops tid _ hth)
      (hstore := (congrArg Prod.fst (Wrapper.put_of_incoming now (h.checked tid i hth) hst hci)).symm)
      (hthreads := rfl) (hlock := (free hl).1) (hlog := rfl)
  case case5 i hth hl st hst hci => -- put, first call: `CheckIncoming` lets it replace `st`
    exact h.acquire P exp s0 ops y _ tid _ (.putReady i) (free hl).1 hth
      (hstore := rfl) (hlog := rfl) (hthreads := rfl) (hlock := rfl)
      (Or.inl ⟨i, rfl, h.init_ops tid _ hth, fun now' =>
        Wrapper.put_of_admits now' (h.checked tid i hth) fun st' h => by rw [hst] at h; cases h; exact hci⟩)
  case case7 t hth hl hst => -- get: nothing stored
    exact h.commit P exp s0 ops y _ tid ⟨tid, .get t, now⟩ .notFound (free hl).2
      hnd rfl (h.init_ops tid _ hth)
      (hstore := (congrArg Prod.fst (Wrapper.get_none exp now hst)).symm)
      (hthreads := rfl) (hlock := (free hl).1) (hlog := rfl)
  case case8 t hth hl e hst hf => -- get: a fresh item
    exact h.commit P exp s0 ops y _ tid ⟨tid, .get t, now⟩ (.item e.item) (free hl).2
      hnd rfl (h.init_ops tid _ hth)
      (hstore := (congrArg Prod.fst (Wrapper.get_fresh hst (of_decide_eq_true hf))).symm)
      (hthreads := rfl) (hlock := (free hl).1) (hlog := rfl)
  case case9 t hth hl e hst hf => -- get, first call: the item has expired
    exact h.acquire P exp s0 ops y _ tid _ (.delReady t now) (free hl).1 hth
      (hstore := rfl) (hlog := rfl) (hthreads := rfl) (hlock := rfl)
      (Or.inr ⟨t, now, rfl, h.init_ops tid _ hth,
        Wrapper.get_expired hst (Nat.le_of_not_gt fun hlt => hf (decide_eq_true hlt))⟩)
  case case10 i hth => -- put, second call: the write
    obtain ⟨hothers, hop, hput⟩ := h.pending_put hth
    exact h.commit P exp s0 ops y _ tid ⟨tid, .put i, now⟩ .ok hothers hnd rfl hop
      (hstore := (congrArg Prod.fst (hput now)).symm) (hthreads := rfl) (hlock := rfl) (hlog := rfl)
  case case11 t g hth => -- get, second call: the delete
    obtain ⟨hothers, hop, hget⟩ := h.pending_del hth
    exact h.commit P exp s0 ops y _ tid ⟨tid, .get t, g⟩ .notFound hothers hnd rfl hop
      (hstore := (congrArg Prod.fst hget).symm) (hthreads := rfl) (hlock := rfl) (hlog := rfl)

theorem LockInv.run {P : Params} {exp : Nat} {s0 : Store} {ops : List Op} {sched : List (Nat × Nat)} {y y' : Sys}
    (h : LockInv P exp s0 ops y) (hr : Sys.run P exp true y sched = some y') : LockInv P exp s0 ops y' := by
  fun_induction Sys.run P exp true y sched
  case case1 => cases hr; exact h
  case case2 => cases hr -- a step that is not enabled
  case case3 hs ih => exact ih (h.step hs) hr

theorem LockInv.concStep {P : Params} {exp : Nat} {s0 : Store} {ops : List Op} {y y' : Sys}
    (h : LockInv P exp s0 ops y) {tid now : Nat} (hs : y.step P exp true tid now = some y') :
    ConcStep exp y y' := by
  intro t a ha
  rcases Sys.step_store hs with he | ⟨i, hth, he⟩ | ⟨t0, g, hth, he⟩
  · rw [he, ha]; exact Int.le_refl _
  · -- the pending `Put` is the accepted `Wrapper.put`: it leaves `t` alone or files an admitted item there
    have := Wrapper.put_at P now y.store i t
    rw [(h.pending_put hth).2.2 now] at this
    simp only [← he] at this
    rcases this with e | ⟨ht, _, hadm, e⟩ <;> rw [e]
    · rw [ha]; exact Int.le_refl _
    · exact (checkIncomingWith_none_forward (hadm a (ht ▸ ha))).1
  · -- the pending `Del` removes what the `Get` at `g` found expired
    rw [he]
    by_cases ht : t = t0
    · subst ht
      rw [Store.del_same]
      refine ⟨tid, g, hth, ?_⟩
      rcases Nat.lt_or_ge g (a.created + exp) with hf | hx
      · have hget := (h.pending_del hth).2.2
        rw [Wrapper.get_fresh ha hf] at hget; exact absurd (congrArg Prod.snd hget) (by simp)
      · exact hx
    · rw [Store.del_other ht, ha]; exact Int.le_refl _

end Dht.B44
