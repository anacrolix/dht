/- T1 by translation (DESIGN.md 12.3a): `Server.nodeErr` (bad nodes) and `Server.IsGood`. -/
import DhtVerif.Lemmas.SourceTrees
import DhtVerif.Model.Server
namespace Dht
open Gen (DExp)

def nodeErrCond (c : TableCfg) (n : Node) : String → Option Bool
  | "n.Id == s.id" => some (n.id == c.root)
  | "n.Id.IsZero()" => some n.id.isZero
  | "!(s.config.NoSecurity || n.IsSecure())" => some (!(c.noSecurity || n.isSecure))
  | "n.failedLastQuestionablePing" => some n.failed
  | _ => none

/-- any `errors.New(…)` result means "bad"; `nil` means not bad -/
def nodeErrRet : String → Option Bool
  | "nil" => some false
  | "errors.New(\"is self\")" => some true
  | "errors.New(\"has zero id\")" => some true
  | "errors.New(\"not secure\")" => some true
  | "errors.New(\"didn't respond to last questionable node ping\")" => some true
  | _ => none

theorem SourceTrees.nodeErr (c : TableCfg) (n : Node) :
    DExp.evalWith (nodeErrCond c n) nodeErrRet Gen.treeNodeErr = some (isBad c n) := by
  unfold nodeErrRet
  -- the chain of `return errors.New(…)`s becomes the disjunction of its four tests
  simp only [Gen.treeNodeErr, DExp.evalWith_ite, DExp.evalWith_ret, nodeErrCond, Option.bind_some, isBad,
    ite_some_true, Bool.or_false, Bool.or_assoc]

/-- Negative check: the zero-ID test negated. Unknown atom: no value whenever evaluation reaches it. -/
def treeNodeErrMutZero : DExp := DExp.ite "n.Id == s.id" (DExp.ret "errors.New(\"is self\")") (DExp.ite "!n.Id.IsZero()" (DExp.ret "errors.New(\"has zero id\")") (DExp.ite "!(s.config.NoSecurity || n.IsSecure())" (DExp.ret "errors.New(\"not secure\")") (DExp.ite "n.failedLastQuestionablePing" (DExp.ret "errors.New(\"didn't respond to last questionable node ping\")") (DExp.ret "nil"))))

theorem SourceTrees.nodeErr_mutZero_none (c : TableCfg) (n : Node) (h : (n.id == c.root) = false) :
    DExp.evalWith (nodeErrCond c n) nodeErrRet treeNodeErrMutZero = none := by
  simp [treeNodeErrMutZero, DExp.evalWith_ite, nodeErrCond, h]

example : ¬ ∀ (c : TableCfg) (n : Node),
    DExp.evalWith (nodeErrCond c n) nodeErrRet treeNodeErrMutZero = some (isBad c n) := by
  intro h
  have h' := h { root := [1] } { id := [2], addr := ⟨[1, 2, 3, 4], 1⟩ }
  rw [SourceTrees.nodeErr_mutZero_none _ _ (by decide)] at h'
  exact absurd h' (by simp)

/-- Negative check: the security test dropped. All atoms known; the value differs from `isBad` for an insecure
node under `NoSecurity = false`. -/
def treeNodeErrMutNoSec : DExp := DExp.ite "n.Id == s.id" (DExp.ret "errors.New(\"is self\")") (DExp.ite "n.Id.IsZero()" (DExp.ret "errors.New(\"has zero id\")") (DExp.ite "n.failedLastQuestionablePing" (DExp.ret "errors.New(\"didn't respond to last questionable node ping\")") (DExp.ret "nil")))

theorem SourceTrees.nodeErr_mutNoSec_wrong (c : TableCfg) (n : Node) (h1 : (n.id == c.root) = false)
    (h2 : n.id.isZero = false) (h3 : (c.noSecurity || n.isSecure) = false) (h4 : n.failed = false) :
    DExp.evalWith (nodeErrCond c n) nodeErrRet treeNodeErrMutNoSec = some false ∧ isBad c n = true := by
  unfold nodeErrRet
  simp [treeNodeErrMutNoSec, DExp.evalWith_ite, DExp.evalWith_ret, nodeErrCond, isBad, h1, h2, h3, h4]

example : ¬ ∀ (c : TableCfg) (n : Node),
    DExp.evalWith (nodeErrCond c n) nodeErrRet treeNodeErrMutNoSec = some (isBad c n) := by
  intro h
  have h' := h { root := [1], noSecurity := false } { id := [2], addr := ⟨[1, 2, 3, 4], 1⟩ }
  have w := SourceTrees.nodeErr_mutNoSec_wrong { root := [1], noSecurity := false }
    { id := [2], addr := ⟨[1, 2, 3, 4], 1⟩ } (by decide) (by decide) (by decide +kernel) (by decide)
  rw [w.1, w.2] at h'
  exact absurd h' (by simp)

def isGoodCond (c : TableCfg) (n : Node) : String → Option Bool
  | "s.nodeIsBad(n)" => some (isBad c n)
  | _ => none

def isGoodExprText : String :=
  "time.Since(n.lastGotResponse) < 15 * time.Minute || !n.lastGotResponse.IsZero() && time.Since(n.lastGotQuery) < 15 * time.Minute"

def isGoodRet (c : TableCfg) (now : Nat) (n : Node) (s : String) : Option Bool :=
  if s == "false" then some false
  else if s == isGoodExprText then some (recent c now n.lastResp || (n.lastResp.isSome && recent c now n.lastQuery))
  else none

theorem isGoodRet_false (c : TableCfg) (now : Nat) (n : Node) : isGoodRet c now n "false" = some false := by
  simp [isGoodRet]

theorem isGoodRet_expr (c : TableCfg) (now : Nat) (n : Node) :
    isGoodRet c now n isGoodExprText = some (recent c now n.lastResp || (n.lastResp.isSome && recent c now n.lastQuery)) := by
  have h : (isGoodExprText == "false") = false := by decide +kernel
  simp [isGoodRet, h]

theorem treeIsGood_shape : Gen.treeIsGood = DExp.ite "s.nodeIsBad(n)" (DExp.ret "false") (DExp.ret isGoodExprText) :=
  rfl

theorem SourceTrees.isGood (c : TableCfg) (now : Nat) (n : Node) :
    DExp.evalWith (isGoodCond c n) (isGoodRet c now n) Gen.treeIsGood = some (isGood c now n) := by
  simp only [treeIsGood_shape, DExp.evalWith_ite, DExp.evalWith_ret, isGoodCond, isGoodRet_false, isGoodRet_expr,
    Option.bind_some, Dht.isGood]
  cases isBad c n <;> rfl

/-- Negative check: the window constant changed (15 → 10 minutes) in the result expression. -/
def isGoodExprTextMut : String :=
  "time.Since(n.lastGotResponse) < 10 * time.Minute || !n.lastGotResponse.IsZero() && time.Since(n.lastGotQuery) < 10 * time.Minute"

def treeIsGoodMut : DExp := DExp.ite "s.nodeIsBad(n)" (DExp.ret "false") (DExp.ret isGoodExprTextMut)

theorem isGoodRet_mut (c : TableCfg) (now : Nat) (n : Node) : isGoodRet c now n isGoodExprTextMut = none := by
  have h1 : (isGoodExprTextMut == "false") = false := by decide +kernel
  have h2 : (isGoodExprTextMut == isGoodExprText) = false := by decide +kernel
  simp [isGoodRet, h1, h2]

theorem SourceTrees.isGood_mut_none (c : TableCfg) (now : Nat) (n : Node) (h : isBad c n = false) :
    DExp.evalWith (isGoodCond c n) (isGoodRet c now n) treeIsGoodMut = none := by
  simp only [treeIsGoodMut, DExp.evalWith_ite, DExp.evalWith_ret, isGoodCond, h, isGoodRet_mut, Option.bind_some]
  rfl

example : ¬ ∀ (c : TableCfg) (now : Nat) (n : Node),
    DExp.evalWith (isGoodCond c n) (isGoodRet c now n) treeIsGoodMut = some (isGood c now n) := by
  intro h
  have h' := h { root := [1] } 0 { id := [2], addr := ⟨[1, 2, 3, 4], 1⟩ }
  rw [SourceTrees.isGood_mut_none _ _ _ (by decide)] at h'
  exact absurd h' (by simp)

/-- Negative check: the two branches exchanged (known atoms): a node that is not bad and has just responded is
good, the changed tree says it is not. -/
example (c : TableCfg) (now : Nat) (n : Node) (h : isBad c n = false) (hr : recent c now n.lastResp = true) :
    DExp.evalWith (isGoodCond c n) (isGoodRet c now n)
      (DExp.ite "s.nodeIsBad(n)" (DExp.ret isGoodExprText) (DExp.ret "false")) = some false ∧
    isGood c now n = true := by
  simp [DExp.evalWith_ite, DExp.evalWith_ret, isGoodCond, h, isGoodRet_false, isGood, hr]

/-- the hypotheses of the previous example can be met -/
example : isBad { root := [1] } { id := [2], addr := ⟨[1, 2, 3, 4], 1⟩, lastResp := some 5 } = false ∧
    recent { root := [1] } 5 (some 5) = true := by decide

end Dht
