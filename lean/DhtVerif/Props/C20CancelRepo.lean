/-
C20, continued — abandoned reservations under the discipline of /repo/ratelimit_serial.go.

`Props/C20Cancel.lean` proves the send budget for histories with `Reservation.CancelAt` under the
hypothesis `CHist.wasteOk` (cumulatively, cancellations never credit more than they reserved) and
shows that with give-backs (`AllowN(now, -1)`) the hypothesis, and the budget, can fail. The repo's
`limiterWait` therefore refuses to call `CancelAt` on a reservation if `limiterGiveBack` was called
(successfully or not: the counter `sendLimiterGiveBacks` is incremented before `AllowN`) since the
reservation was made; such a reservation lapses — it becomes neither a datagram nor a credit.

Definitions: `RHist` = `CHist` + `old`, the number of pending
reservations made before the most recent `giveBack` event (they are a prefix of `pending`, which is
kept in the order the reservations were made); `RHist.step`: `cancel i` is `CHist.step (.cancel i)`
when `old ≤ i` and `CHist.lapse i` otherwise, every other event is `CHist.step`;
`CHist.runRepo s h = (RHist.run ⟨s, 0⟩ h).s`.

What is proved here, and what is not:

* `C20.prefix_bound_repo_partial`, `C20.datagrams_bound_repo_partial`: the budget
  `sent ≤ burst + rate·(now − t0) + returned` for every timely history run under the discipline,
  STILL under a cumulative-waste hypothesis (`RHist.wasteOk`: the running total over the EFFECTIVE
  cancellations of `unit − credited`, plus one unit per lapsed reservation, never falls below
  zero). A lapsed reservation counts one whole unit in favour of the hypothesis.
* `C20.prefix_bound_repo_waiting`, `C20.datagrams_bound_repo_waiting`: the budget WITHOUT any waste
  hypothesis, give-backs included, for the histories in which every `cancel i` that reaches the
  limiter hits a reservation that STILL WAITS FOR ITS SLOT (`now < slot`; cancellations among these
  in ANY order) or the most recently made pending reservation (`RHist.waitOk`; cancellations of
  reservations made before a give-back, which the discipline skips, are unrestricted, and so are
  `use`, `allow`, `reserve`, `giveBack`, `adv`). This is what `limiterWait` produces except in a
  race: its `cancel` runs either right after `ReserveN` (deadline test) or when the context ends
  while the goroutine sleeps until its slot. Last-made-first histories (`..._repo_lifo`) and a
  single waiter are special cases. In this class every effective cancellation credits at most the
  token it reserved (`C20.run_ok_repo_of_waiting`): no pending reservation that may still be
  cancelled lies after `lastEvent`, and one that waits lies a whole token before every later one,
  so unless it is the most recent one nothing is credited for it at all. With the discipline this
  holds across give-backs (without it: `C20.giveback_then_cancel_breaks_bound`). What the class
  leaves out: cancelling, at the very nanosecond of its slot, a reservation that is not the most
  recent one — the only way a cancellation is credited in part, which is what later over-credits
  feed on.
* `C20.prefix_bound_repo_burst_one`, `C20.datagrams_bound_repo_burst_one`: the budget without any
  hypothesis and for ANY order of cancellation when `burst = 1` (then every reservation lies a whole
  token after the one made before it and only the most recent one can be credited).
* `C20.run_repo_eq_run`, `C20.waste_ok_repo_eq`: without give-backs the discipline changes nothing.
* NOT proved: `RHist.wasteOk` for ARBITRARY cancellations when `burst ≥ 2`. There a single
  cancellation can credit more than one token
  (`C20.cancel_can_restore_more`: cancelling the most recent reservation rolls `lastEvent` back by
  exactly one token's duration, which is too far when an earlier cancellation was credited only in
  part), and the claim is that earlier under-credits always pay for it. See the end of this file
  for the one kind of event that is not covered and what the missing invariant has to look like, and `C20.bounded_check_repo`,
  `C20.bounded_check_repo_gb` for kernel-checked exhaustive searches (BOUNDED checks, not the theorem).
-/
import DhtVerif.Model.RateCancel
import DhtVerif.Lemmas.C20CancelRepo
namespace Dht

/-- `cancel i` under the discipline, spelled out: effective when the `i`-th pending reservation was
made after the most recent `giveBack` event, otherwise the reservation lapses and the limiter is
left as it is. -/
theorem C20.repo_cancel (r : RHist) (i : Nat) :
    (r.old ≤ i → r.step (.cancel i) = ⟨r.s.step (.cancel i), r.old⟩) ∧
    (i < r.old → (r.step (.cancel i)).s.c = r.s.c ∧ (r.step (.cancel i)).s.out = r.s.out ∧
      (r.step (.cancel i)).s.returned = r.s.returned ∧
      (r.step (.cancel i)).s.pending = r.s.pending.eraseIdx i) := by
  constructor
  · intro h; simp only [RHist.step, if_pos h]
  · intro h
    have h' : ¬ r.old ≤ i := by omega
    simp only [RHist.step, if_neg h', CHist.lapse]
    split
    · exact ⟨rfl, rfl, rfl, rfl⟩
    · rename_i hn
      refine ⟨rfl, rfl, rfl, ?_⟩
      rw [List.eraseIdx_of_length_le]
      exact List.getElem?_eq_none_iff.mp hn

/-- a `giveBack` event (successful or not) makes every pending reservation uncancellable; a
reservation made afterwards can be cancelled -/
theorem C20.repo_give_back (r : RHist) :
    (r.step .giveBack).old = (r.step .giveBack).s.pending.length ∧
    (r.step .reserve).old = r.old := by
  refine ⟨?_, rfl⟩
  show r.s.pending.length = (r.s.step .giveBack).pending.length
  rw [CHist.step_giveBack_pending]

/-- Without give-backs the discipline changes nothing. -/
theorem C20.run_repo_eq_run (s : CHist) (h : List CEv) (hg : h.all (fun e => !e.isGiveBack) = true) :
    s.runRepo h = s.run h := by
  induction h generalizing s with
  | nil => rfl
  | cons e h ih =>
    simp only [List.all_cons, Bool.and_eq_true, Bool.not_eq_true'] at hg
    rw [CHist.runRepo, RHist.run_cons, RHist.step_old_zero s e hg.1]
    exact ih _ (by simpa using hg.2)

theorem C20.waste_ok_repo_eq (s : CHist) (W : Int) (h : List CEv) (hg : h.all (fun e => !e.isGiveBack) = true) :
    RHist.wasteOk ⟨s, 0⟩ W h = s.wasteOk W h := by
  induction h generalizing s W with
  | nil => rfl
  | cons e h ih =>
    simp only [List.all_cons, Bool.and_eq_true, Bool.not_eq_true'] at hg
    simp only [RHist.wasteOk, CHist.wasteOk, RHist.wasteStep_old_zero, RHist.step_old_zero s e hg.1]
    rw [ih _ _ (by simpa using hg.2)]

/-! ## The budget under a cumulative-waste hypothesis (any order of cancellation) -/

/-- Prefix windows under the repo's discipline. As `C20.prefix_bound_with_cancel`, for histories
run under the discipline; the hypothesis is about the effective cancellations only (a skipped one
counts a whole token in its favour). PARTIAL: the hypothesis `wasteOk` is not discharged here for
arbitrary orders of cancellation. -/
theorem C20.prefix_bound_repo_partial (p q burst t0 : Nat) (hp : 0 < p) (h : List CEv)
    (ht : h.all CEv.timely = true) (hok : (RHist.init p q burst t0).wasteOk 0 h = true) :
    let s := (CHist.init p q burst t0).runRepo h
    (q * nsPerSec) * s.effective (p * s.now) + p * t0
      ≤ burst * (q * nsPerSec) + p * s.now + (q * nsPerSec) * s.returned := by
  intro s
  obtain ⟨w, W, i⟩ := RHist.inv_run hp h (r := RHist.init p q burst t0) (CHist.WF.init p q burst t0)
    (CHist.Inv.init p q burst t0) ht hok
  exact i.prefix_bound w

/-- Hence the grants that became datagrams by now number at most `burst + rate·(now − t0)`, plus
the tokens given back. PARTIAL in the same sense. -/
theorem C20.datagrams_bound_repo_partial (p q burst t0 : Nat) (hp : 0 < p) (h : List CEv)
    (ht : h.all CEv.timely = true) (hok : (RHist.init p q burst t0).wasteOk 0 h = true) :
    let s := (CHist.init p q burst t0).runRepo h
    (q * nsPerSec) * s.sent + p * t0 ≤ burst * (q * nsPerSec) + p * s.now + (q * nsPerSec) * s.returned := by
  intro s
  obtain ⟨w, W, i⟩ := RHist.inv_run hp h (r := RHist.init p q burst t0) (CHist.WF.init p q burst t0)
    (CHist.Inv.init p q burst t0) ht hok
  exact i.datagrams_bound w

/-! ## No hypothesis on the waste: reservations abandoned while waiting (any order), or last-made-first -/

/-- In a timely history run under the discipline in which every cancellation that reaches the
limiter hits a reservation that still waits for its slot (`now < slot`) or the most recently made
pending reservation (`RHist.waitOk`), every such cancellation credits at most the token it
reserved — cancellations in any order among the waiting reservations; give-backs, uses and sends in
any order. -/
theorem C20.run_ok_repo_of_waiting (p q burst t0 : Nat) (hp : 0 < p) (h : List CEv)
    (ht : h.all CEv.timely = true) (hl : (RHist.init p q burst t0).waitOk h = true) :
    (RHist.init p q burst t0).runOk h = true ∧ (RHist.init p q burst t0).wasteOk 0 h = true := by
  have h1 := RHist.fresh_run (strict := false) hp (fun h => nomatch h) h (CHist.WF.init p q burst t0)
    (RHist.Fresh.init false p q burst t0) ht (Or.inr hl)
  exact ⟨h1, RHist.wasteOk_of_runOk h _ 0 (Int.le_refl _) h1⟩

/-- Prefix windows, no hypothesis on the waste: for every timely history run under the discipline
in which reservations are abandoned while they wait for their slot (in any order) or
last-made-first, the live grants whose token is covered by now, net of the tokens given back, number
at most `burst + rate·(now − t0)`. -/
theorem C20.prefix_bound_repo_waiting (p q burst t0 : Nat) (hp : 0 < p) (h : List CEv)
    (ht : h.all CEv.timely = true) (hl : (RHist.init p q burst t0).waitOk h = true) :
    let s := (CHist.init p q burst t0).runRepo h
    (q * nsPerSec) * s.effective (p * s.now) + p * t0
      ≤ burst * (q * nsPerSec) + p * s.now + (q * nsPerSec) * s.returned :=
  C20.prefix_bound_repo_partial p q burst t0 hp h ht (C20.run_ok_repo_of_waiting p q burst t0 hp h ht hl).2

/-- … and the datagrams written by now number at most `burst + rate·(now − t0)` plus the tokens
given back. -/
theorem C20.datagrams_bound_repo_waiting (p q burst t0 : Nat) (hp : 0 < p) (h : List CEv)
    (ht : h.all CEv.timely = true) (hl : (RHist.init p q burst t0).waitOk h = true) :
    let s := (CHist.init p q burst t0).runRepo h
    (q * nsPerSec) * s.sent + p * t0 ≤ burst * (q * nsPerSec) + p * s.now + (q * nsPerSec) * s.returned :=
  C20.datagrams_bound_repo_partial p q burst t0 hp h ht (C20.run_ok_repo_of_waiting p q burst t0 hp h ht hl).2

/-- Last-made-first histories (`RHist.lifoOk`: every cancellation that reaches the limiter hits the
most recently made pending reservation, whether it is due or not) are a special case
(`RHist.waitOk_of_lifoOk`); so is a single waiter (at most one pending reservation at a time). -/
theorem C20.prefix_bound_repo_lifo (p q burst t0 : Nat) (hp : 0 < p) (h : List CEv)
    (ht : h.all CEv.timely = true) (hl : (RHist.init p q burst t0).lifoOk h = true) :
    let s := (CHist.init p q burst t0).runRepo h
    (q * nsPerSec) * s.effective (p * s.now) + p * t0
      ≤ burst * (q * nsPerSec) + p * s.now + (q * nsPerSec) * s.returned :=
  C20.prefix_bound_repo_waiting p q burst t0 hp h ht (RHist.waitOk_of_lifoOk h _ hl)

theorem C20.datagrams_bound_repo_lifo (p q burst t0 : Nat) (hp : 0 < p) (h : List CEv)
    (ht : h.all CEv.timely = true) (hl : (RHist.init p q burst t0).lifoOk h = true) :
    let s := (CHist.init p q burst t0).runRepo h
    (q * nsPerSec) * s.sent + p * t0 ≤ burst * (q * nsPerSec) + p * s.now + (q * nsPerSec) * s.returned :=
  C20.datagrams_bound_repo_waiting p q burst t0 hp h ht (RHist.waitOk_of_lifoOk h _ hl)

/-! ## No hypothesis on the waste: a bucket of one token, any order of cancellation -/

/-- With `burst = 1` every timely history run under the discipline — reservations cancelled in ANY
order, give-backs included — has every effective cancellation credit at most the token it
reserved: a bucket that never holds more than one token puts each reservation a whole token after
the one made before it, so only the most recent one is credited at all. -/
theorem C20.run_ok_repo_of_burst_one (p q t0 : Nat) (hp : 0 < p) (h : List CEv) (ht : h.all CEv.timely = true) :
    (RHist.init p q 1 t0).runOk h = true ∧ (RHist.init p q 1 t0).wasteOk 0 h = true := by
  have h1 := RHist.fresh_run (strict := true) hp (fun _ => rfl) h (CHist.WF.init p q 1 t0)
    (RHist.Fresh.init true p q 1 t0) ht (Or.inl rfl)
  exact ⟨h1, RHist.wasteOk_of_runOk h _ 0 (Int.le_refl _) h1⟩

/-- Prefix windows for `burst = 1`: any order of cancellation, no hypothesis on the waste. -/
theorem C20.prefix_bound_repo_burst_one (p q t0 : Nat) (hp : 0 < p) (h : List CEv) (ht : h.all CEv.timely = true) :
    let s := (CHist.init p q 1 t0).runRepo h
    (q * nsPerSec) * s.effective (p * s.now) + p * t0
      ≤ 1 * (q * nsPerSec) + p * s.now + (q * nsPerSec) * s.returned :=
  C20.prefix_bound_repo_partial p q 1 t0 hp h ht (C20.run_ok_repo_of_burst_one p q t0 hp h ht).2

theorem C20.datagrams_bound_repo_burst_one (p q t0 : Nat) (hp : 0 < p) (h : List CEv) (ht : h.all CEv.timely = true) :
    let s := (CHist.init p q 1 t0).runRepo h
    (q * nsPerSec) * s.sent + p * t0 ≤ 1 * (q * nsPerSec) + p * s.now + (q * nsPerSec) * s.returned :=
  C20.datagrams_bound_repo_partial p q 1 t0 hp h ht (C20.run_ok_repo_of_burst_one p q t0 hp h ht).2

/-! ## Bounded checks (NOT the theorem) -/

def C20.checkAlphabet : List CEv := [.reserve, .cancel 0, .cancel 1, .cancel 2, .adv 1]

def C20.checkAlphabetGb : List CEv := [.reserve, .cancel 0, .cancel 1, .cancel 2, .adv 1, .giveBack]

/-- Kernel-evaluated exhaustive search: 4 ns per token (`p = 250000000`, `q = 1`), burst 2; after
one send and 2 ns (the bucket then holds 1.5 tokens: reservations made now are not aligned with a
whole number of tokens) every continuation of at most 6 events from `checkAlphabet`, in any order,
keeps the running waste non-negative. The shortest history in which one cancellation credits more
than a token (`reserve, reserve, cancel 0, reserve, cancel 1, cancel 0`, cf.
`C20.cancel_can_restore_more`) is among them. -/
theorem C20.bounded_check_search :
    RHist.allWasteOk C20.checkAlphabet 6 ((RHist.init 250000000 1 2 0).run [.allow, .adv 2]) 0 = true := by
  decide +kernel

/-- The same with give-backs among the events, at most 5 events. -/
theorem C20.bounded_check_search_gb :
    RHist.allWasteOk C20.checkAlphabetGb 5 ((RHist.init 250000000 1 2 0).run [.allow, .adv 2]) 0 = true := by
  decide +kernel

theorem C20.bounded_check_aux (alph : List CEv) (n : Nat) (ha : ∀ e ∈ alph, e.timely = true)
    (hs : RHist.allWasteOk alph n ((RHist.init 250000000 1 2 0).run [.allow, .adv 2]) 0 = true)
    (h : List CEv) (hl : h.length ≤ n) (hm : ∀ e ∈ h, e ∈ alph) :
    (RHist.init 250000000 1 2 0).wasteOk 0 ([.allow, .adv 2] ++ h) = true ∧
    (let s := (CHist.init 250000000 1 2 0).runRepo ([.allow, .adv 2] ++ h)
     (1 * nsPerSec) * s.sent + 250000000 * 0 ≤ 2 * (1 * nsPerSec) + 250000000 * s.now + (1 * nsPerSec) * s.returned) := by
  have hw : (RHist.init 250000000 1 2 0).wasteOk 0 ([.allow, .adv 2] ++ h) = true := by
    show (RHist.init 250000000 1 2 0).wasteOk 0 (.allow :: .adv 2 :: h) = true
    rw [RHist.wasteOk_cons_zero _ _ _ _ (Int.le_refl _) rfl, RHist.wasteOk_cons_zero _ _ _ _ (Int.le_refl _) rfl]
    exact RHist.allWasteOk_sound _ h n _ 0 (Int.le_refl _) hl hm hs
  refine ⟨hw, ?_⟩
  have ht : ([CEv.allow, CEv.adv 2] ++ h).all CEv.timely = true := by
    simp only [List.all_append, List.all_cons, List.all_nil, Bool.and_true, Bool.and_eq_true, List.all_eq_true]
    exact ⟨⟨rfl, rfl⟩, fun e he => ha e (hm e he)⟩
  exact C20.datagrams_bound_repo_partial 250000000 1 2 0 (by decide) _ ht hw

/-- BOUNDED CHECK, not the theorem: for rate 1 token / 4 ns, burst 2, every history
`allow, adv 2 ns` followed by at most 6 events from `checkAlphabet` (any order of cancellation, up
to three reservations pending at once) meets the waste hypothesis, hence the budget. -/
theorem C20.bounded_check_repo (h : List CEv) (hl : h.length ≤ 6) (hm : ∀ e ∈ h, e ∈ C20.checkAlphabet) :
    (RHist.init 250000000 1 2 0).wasteOk 0 ([.allow, .adv 2] ++ h) = true ∧
    (let s := (CHist.init 250000000 1 2 0).runRepo ([.allow, .adv 2] ++ h)
     (1 * nsPerSec) * s.sent + 250000000 * 0 ≤ 2 * (1 * nsPerSec) + 250000000 * s.now + (1 * nsPerSec) * s.returned) :=
  C20.bounded_check_aux _ 6 (by decide) C20.bounded_check_search h hl hm

/-- BOUNDED CHECK, not the theorem: the same with give-backs, at most 5 events. -/
theorem C20.bounded_check_repo_gb (h : List CEv) (hl : h.length ≤ 5) (hm : ∀ e ∈ h, e ∈ C20.checkAlphabetGb) :
    (RHist.init 250000000 1 2 0).wasteOk 0 ([.allow, .adv 2] ++ h) = true ∧
    (let s := (CHist.init 250000000 1 2 0).runRepo ([.allow, .adv 2] ++ h)
     (1 * nsPerSec) * s.sent + 250000000 * 0 ≤ 2 * (1 * nsPerSec) + 250000000 * s.now + (1 * nsPerSec) * s.returned) :=
  C20.bounded_check_aux _ 5 (by decide) C20.bounded_check_search_gb h hl hm

/-! ## Kept examples -/

/-- The discipline at work on `C20.giveback_then_cancel_breaks_bound` (1 token/s, burst 3, all at
instant 0): three sends, a reservation, a give-back, the cancellation — now skipped, so the token
the reservation holds is lost —, two more `Allow`s, both refused. 3 grants became datagrams against
a budget of 3 + 1 given back; without the discipline 5 did. The history is last-made-first, so
`prefix_bound_repo_lifo` (hence `prefix_bound_repo_waiting`) applies. -/
example :
    let h : List CEv := [.allow, .allow, .allow, .reserve, .giveBack, .cancel 0, .allow, .allow]
    let s := (CHist.init 1 1 3 0).runRepo h
    let s' := (CHist.init 1 1 3 0).run h
    h.all CEv.timely = true ∧ (RHist.init 1 1 3 0).lifoOk h = true ∧ (RHist.init 1 1 3 0).wasteOk 0 h = true ∧
    (CHist.init 1 1 3 0).wasteOk 0 h = false ∧
    s.sent = 3 ∧ s.returned = 1 ∧ s.cancelled = 1 ∧ s.pending = [] ∧ s'.sent = 5 ∧
    (1 * nsPerSec) * s.sent + 1 * 0 ≤ 3 * (1 * nsPerSec) + 1 * s.now + (1 * nsPerSec) * s.returned ∧
    ¬ (1 * nsPerSec) * s'.sent + 1 * 0 ≤ 3 * (1 * nsPerSec) + 1 * s'.now + (1 * nsPerSec) * s'.returned := by
  decide +kernel

/-- Non-vacuity of the `lifo` theorems: 2 tokens/s, burst 2. Two sends, one of them fails on the
socket (give-back); three reservations (slots 0 s, 0.5 s, 1 s); at 0.1 s the last two are cancelled,
youngest first (the first of these rolls `lastEvent` back), the oldest is used; a fourth reservation
(slot 0.5 s), then another failed write elsewhere (give-back): the fourth reservation, cancelled at
once, lapses. At 0.6 s one `Allow` passes and the next is refused. Every effective cancellation
credits exactly its token. Without the discipline the last cancellation would credit 1.8 tokens and
the history would fail `CHist.wasteOk`. -/
example :
    let h : List CEv := [.allow, .allow, .giveBack, .reserve, .reserve, .reserve, .adv 100000000, .cancel 2, .cancel 1,
      .use 0, .reserve, .giveBack, .cancel 0, .adv 500000000, .allow, .allow]
    let r := (RHist.init 2 1 2 0).run h
    h.all CEv.timely = true ∧ (RHist.init 2 1 2 0).lifoOk h = true ∧
    (RHist.init 2 1 2 0).runOk h = true ∧ (RHist.init 2 1 2 0).wasteOk 0 h = true ∧
    (CHist.init 2 1 2 0).wasteOk 0 h = false ∧
    r.s = (CHist.init 2 1 2 0).runRepo h ∧
    r.s.sent = 4 ∧ r.s.returned = 2 ∧ r.s.cancelled = 3 ∧ r.s.pending = [] ∧ r.old = 0 ∧ r.s.now = 600000000 ∧
    r.s.out.map (·.time) = [600000000, 100000000, 0, 0] ∧ r.s.effective (2 * r.s.now) = 4 ∧
    r.s.c.b.tokens = 200000000 := by
  decide +kernel

/-- A single waiter (at most one pending reservation) is last-made-first: 1 token/s, burst 1. A
send; a waiter reserves (slot 1 s) and gives up at 0.3 s; the next reserves (slot 1 s) but a write
fails elsewhere at 0.5 s (give-back) and its cancellation is skipped; a third waits for its slot
and sends. -/
example :
    let h : List CEv := [.allow, .reserve, .adv 300000000, .cancel 0, .reserve, .adv 200000000, .giveBack, .cancel 0,
      .reserve, .adv 1000000000, .use 0]
    let r := (RHist.init 1 1 1 0).run h
    h.all CEv.timely = true ∧ (RHist.init 1 1 1 0).lifoOk h = true ∧ (RHist.init 1 1 1 0).wasteOk 0 h = true ∧
    r.s.sent = 2 ∧ r.s.returned = 1 ∧ r.s.cancelled = 2 ∧ r.s.pending = [] ∧ r.s.now = 1500000000 := by
  decide +kernel

/-- Non-vacuity of the `waiting` theorems outside the last-made-first class: 2 tokens/s, burst 2.
Two sends; three waiters reserve (slots 0.5 s, 1 s, 1.5 s); at 0.1 s the OLDEST gives up first (it
still waits; its token has been passed on: nothing is credited), then the youngest and the middle
one (a token each; `lastEvent` rolls back twice); a failed write gives a token back; two more
waiters reserve (slots 0.5 s and, at 0.2 s, 1 s) and the older of them gives up while waiting
(nothing credited); the other one sends at its slot; an `Allow` at 1 s is refused. -/
example :
    let h : List CEv := [.allow, .allow, .reserve, .reserve, .reserve, .adv 100000000, .cancel 0, .cancel 1, .cancel 0,
      .giveBack, .reserve, .adv 100000000, .reserve, .cancel 0, .adv 800000000, .use 0, .allow]
    let r := (RHist.init 2 1 2 0).run h
    h.all CEv.timely = true ∧ (RHist.init 2 1 2 0).waitOk h = true ∧ (RHist.init 2 1 2 0).lifoOk h = false ∧
    (RHist.init 2 1 2 0).runOk h = true ∧ (RHist.init 2 1 2 0).wasteOk 0 h = true ∧
    r.s.sent = 3 ∧ r.s.returned = 1 ∧ r.s.cancelled = 4 ∧ r.s.pending = [] ∧ r.s.now = 1000000000 ∧
    r.s.out.map (·.time) = [1000000000, 0, 0] ∧ r.s.effective (2 * r.s.now) = 3 := by
  decide +kernel

/-- Non-vacuity of the `burst_one` theorems: 1 token/s, burst 1, a history that is not
last-made-first. A send; three reservations (slots 1 s, 2 s, 3 s); at 0.2 s the oldest is cancelled
(its token has been passed on: nothing is credited), then the youngest and the middle one (one
token each, `lastEvent` rolls back twice); a failed write gives a token back; a fourth reservation
(slot 1 s) is overtaken by another give-back and its cancellation is skipped; at 1 s one `Allow`
passes, the next is refused. -/
example :
    let h : List CEv := [.allow, .reserve, .reserve, .reserve, .adv 200000000, .cancel 0, .cancel 1, .cancel 0,
      .giveBack, .reserve, .giveBack, .cancel 0, .adv 800000000, .allow, .allow]
    let r := (RHist.init 1 1 1 0).run h
    h.all CEv.timely = true ∧ (RHist.init 1 1 1 0).lifoOk h = false ∧
    (RHist.init 1 1 1 0).runOk h = true ∧ (RHist.init 1 1 1 0).wasteOk 0 h = true ∧
    r.s.sent = 2 ∧ r.s.returned = 2 ∧ r.s.cancelled = 4 ∧ r.s.pending = [] ∧ r.s.now = 1000000000 ∧
    r.s.out.map (·.time) = [1000000000, 0] ∧ r.s.c.b.tokens = 0 := by
  decide +kernel

/-- Non-vacuity of the `partial` theorems outside the `lifo` class, and the reason the general
statement is hard: `C20.cancel_can_restore_more` run under the discipline (no give-backs, so it is
the same run). 1 token/s, burst 2. The reservations are cancelled oldest first, then youngest,
then the middle one; the three cancellations credit ½, 1 and 1½ tokens: the last one is NOT
`creditOk` (so `runOk` fails; the history is not in the `waiting` class: the first cancellation hits
a reservation at the nanosecond of its slot that is not the most recent one, and is credited in
part), yet the running waste (½, ½, 0) never falls below zero. -/
example :
    let h : List CEv := [.allow, .adv 500000000, .reserve, .reserve, .cancel 0, .reserve, .cancel 1, .cancel 0]
    let s := (CHist.init 1 1 2 0).runRepo h
    h.all CEv.timely = true ∧ (RHist.init 1 1 2 0).wasteOk 0 h = true ∧
    (RHist.init 1 1 2 0).runOk h = false ∧ (RHist.init 1 1 2 0).waitOk h = false ∧
    s = (CHist.init 1 1 2 0).run h ∧ s.sent = 1 ∧ s.cancelled = 3 ∧ s.c.b.tokens = 1500000000 ∧
    (1 * nsPerSec) * s.sent + 1 * 0 ≤ 2 * (1 * nsPerSec) + 1 * s.now + (1 * nsPerSec) * s.returned := by
  decide +kernel

/-- `checkAlphabet` histories exist that are not last-made-first and over-credit: the bounded check
covers the phenomenon (4 ns per token; the same shape as the example above). -/
example :
    let h : List CEv := [.reserve, .reserve, .cancel 0, .reserve, .cancel 1, .cancel 0]
    h.length ≤ 6 ∧ (∀ e ∈ h, e ∈ C20.checkAlphabet) ∧
    (RHist.init 250000000 1 2 0).runOk ([.allow, .adv 2] ++ h) = false ∧
    (RHist.init 250000000 1 2 0).wasteOk 0 ([.allow, .adv 2] ++ h) = true := by
  decide +kernel

/-!
## What is missing

Exactly one kind of event separates `prefix_bound_repo_waiting` from the statement for ALL timely
histories (`burst ≥ 2`): a cancellation that reaches the limiter, at the very nanosecond of its slot
(`now = slot`; later it is a no-op, earlier it is in the class), of a reservation that is not the
most recent one. Such a reservation need not lie a whole token before the later ones (several
reservations made at an instant at which the bucket holds tokens all get `timeToAct = now`), so
`restoreTokens` can be a fraction of a token; the bucket's zero instant `F = p·last − tokens` then
falls below pending reservations, `reserve; cancel` rolls `lastEvent` down to `F`, and cancelling
those reservations credits more than a token each (`C20.cancel_can_restore_more`). The claim that
remains open is that the earlier under-credits always pay for this (`RHist.wasteOk`).

What the search for an invariant established (scaled time, `U` = one token, `n = p·now`,
`L = lastEvent`, `P` = the acts of the pending reservations that may still be cancelled):

* The budget needs only the conservation law `tokens + U·|live| ≤ cap + p·(last − t0) + U·returned`
  (`B ≥ 0`, where `B` = waste + what overflowed the cap); `CHist.Inv` is maintained by every event
  as long as it holds after each cancellation. A cancellation of `b` changes `B` by `L − b`. So the
  theorem is: `b − L ≤ B` whenever `b ∈ P` is cancelled in time.
* A potential `Ψ(state)` with `0 ≤ Ψ ≤ W` that survives every event must charge every `b ∈ P` above
  `F`; because each over-credit lowers `F` by more than a token the charges compound (`x, 2x, 4x, …`
  down a filled stack of reservations) and, through `reserve; cancel` cycles, add up to the full
  height `b − n` of the reservation. Conversely the cheapest way to produce a reservation `b` that
  is not aligned with the stack costs `b − n`. Every simple candidate (`Σ (b − min(L, max(F, n)))⁺`;
  weak majorisation of the sorted acts by the levels `F, F − U, …`; `Σ` of heights over the unaligned
  reservations; overlaps `(a_j − (a_{j+1} − U))⁺` in reservation order) is `≤ W` on all reachable
  states examined but is not inductive, or is inductive only with a structural invariant on the
  reachable sets `P` that we could not close (unaligned reservations sit at the bottom of the stack).
* Evidence that the statement is true (outside Lean): the minimal running waste over ALL histories,
  computed by relaxation over the abstract states `(F − n, L − n, P)` (time in steps of `1/U` token,
  `p = 1`), is 0 — never negative — for `(U, burst)` in (4,3), (5,3), (3,4), (6,2), (7,3), (4,5),
  (10,2), (4,6), (5,6), (3,8), (6,4) with at most 6 cancellable pending reservations and debt up to
  7–12 tokens, and with give-backs under the discipline for (4,3), (5,4), (3,5); 400 000 random
  histories with `p ∈ {1,2,3}`. Inside Lean: `C20.bounded_check_repo`, `C20.bounded_check_repo_gb`.
* A proof has to cope with the following, all observed on reachable states: a cancellation may credit
  more than two tokens (`b − L > U`); two and more pending reservations may lie above `L` at once;
  `W = Σ (b − n)` over the pending reservations not aligned with the stack is attained (so the
  invariant is tight in the heights, not only in the overlaps); and from UNREACHABLE states that
  satisfy every simple structural invariant we tried (e.g. an unaligned reservation on top of a
  filled stack of three) the waste does become negative, so the invariant must capture which
  sets `P` are reachable at which cost.
-/

end Dht
