/-
C08 — replies go to the asker, echo its transaction ID, and use the right KRPC form.
Theorems over `DhtVerif/Model/Server.lean`, for every configuration, server
state, source address, message and environment answer.
-/
import DhtVerif.Model.Server
import DhtVerif.Lemmas.Server
namespace Dht

/-- At most one datagram is produced per inbound datagram. -/
theorem C08.one_out_per_query (c : SrvCfg) (mk : TokenFn) (s s' : Srv) (src : NAddr) (size : Nat) (d : Decoded)
    (env : Env) (outs : List Out) (effs : List Effect)
    (h : serveDatagram c mk s src size d env = some (s', outs, effs)) : outs.length ≤ 1 := by
  rcases serveDatagram_cases c mk s src size d with h1 | ⟨m, _, _, _, h1⟩ <;> rw [h1] at h
  · cases h; exact Nat.zero_le _
  · exact (processMsg_shape h).length_le_one

/-- Every datagram produced goes to the source of the query and echoes its transaction ID. -/
theorem C08.out_dst_and_t (c : SrvCfg) (mk : TokenFn) (s s' : Srv) (src : NAddr) (m : QMsg)
    (env : Env) (outs : List Out) (effs : List Effect)
    (h : processMsg c mk s src m env = some (s', outs, effs)) :
    ∀ o ∈ outs, o.dst = src ∧ o.t = m.t := by
  exact (processMsg_shape h).dst_t

/-- A response carries the node's own ID and the requester's address in `ip`. -/
theorem C08.reply_has_own_id_and_ip (c : SrvCfg) (mk : TokenFn) (s s' : Srv) (src : NAddr) (m : QMsg)
    (env : Env) (outs : List Out) (effs : List Effect)
    (h : processMsg c mk s src m env = some (s', outs, effs)) :
    ∀ o ∈ outs, ∀ r, o.kind = .reply r → o.id = some c.tbl.root ∧ o.ip = some src := by
  exact (processMsg_shape h).reply_id_ip

/-- An unknown method gets exactly one error 204 (node not passive, hook does not veto). -/
theorem C08.unknown_method_204 (c : SrvCfg) (mk : TokenFn) (s s' : Srv) (src : NAddr) (m : QMsg)
    (env : Env) (outs : List Out) (effs : List Effect)
    (hy : m.y = str "q") (hq : m.q ∉ knownMethods) (hpass : c.passive = false)
    (hhook : c.hasHook = false ∨ env.hookPropagate = true) (hcl : s.closed = false)
    (h : processMsg c mk s src m env = some (s', outs, effs)) :
    outs = [mkError src m.t Gen.errorCodeMethodUnknown] ∧ Gen.errorCodeMethodUnknown = 204 := by
  obtain ⟨tbl', _, ho, _⟩ := processMsg_active hy hpass hhook hcl h
  rw [dispatch_unknown hq] at ho
  exact ⟨ho, rfl⟩

/-- A method that needs arguments but has none gets exactly one error 203. -/
theorem C08.missing_args_203 (c : SrvCfg) (mk : TokenFn) (s s' : Srv) (src : NAddr) (m : QMsg)
    (env : Env) (outs : List Out) (effs : List Effect)
    (hy : m.y = str "q") (hq : m.q ∈ knownMethods) (hq' : m.q ≠ str "ping") (ha : m.a = none)
    (hpass : c.passive = false) (hhook : c.hasHook = false ∨ env.hookPropagate = true) (hcl : s.closed = false)
    (h : processMsg c mk s src m env = some (s', outs, effs)) :
    outs = [mkError src m.t Gen.errorCodeProtocolError] ∧ Gen.errorCodeProtocolError = 203 := by
  obtain ⟨tbl', _, ho, _⟩ := processMsg_active hy hpass hhook hcl h
  rw [dispatch_no_args hq hq' ha] at ho
  exact ⟨ho, rfl⟩

/-- ping, find_node, get_peers and get always get exactly one datagram, and
announce_peer / put with a valid token too. -/
theorem C08.always_answers (c : SrvCfg) (mk : TokenFn) (s s' : Srv) (src : NAddr) (m : QMsg)
    (env : Env) (outs : List Out) (effs : List Effect)
    (hy : m.y = str "q") (hpass : c.passive = false)
    (hhook : c.hasHook = false ∨ env.hookPropagate = true) (hcl : s.closed = false)
    (htok : (m.q = str "announce_peer" ∨ m.q = str "put") →
      ∀ a, m.a = some a → validToken c mk s.ts.now src.ip a.token = true)
    (h : processMsg c mk s src m env = some (s', outs, effs)) :
    outs.length = 1 := by
  obtain ⟨tbl', _, ho, _⟩ := processMsg_active hy hpass hhook hcl h
  rw [ho]
  exact dispatch_length_one htok

/-- Nothing is ever sent in reaction to a response, an error or a message of unknown type. -/
theorem C08.nothing_for_non_query (c : SrvCfg) (mk : TokenFn) (s s' : Srv) (src : NAddr) (m : QMsg)
    (env : Env) (outs : List Out) (effs : List Effect) (hy : m.y ≠ str "q")
    (h : processMsg c mk s src m env = some (s', outs, effs)) : outs = [] := by
  exact (processMsg_outs h).resolve_right fun ⟨h1, _⟩ => hy h1

/-- Undecodable datagrams produce nothing and change nothing. -/
theorem C08.nothing_for_garbage (c : SrvCfg) (mk : TokenFn) (s : Srv) (src : NAddr) (size : Nat) (env : Env) :
    serveDatagram c mk s src size .notDict env = some (s, [], []) ∧
    serveDatagram c mk s src size .undecodable env = some (s, [], []) := by
  constructor <;> rcases serveDatagram_cases c mk s src size _ with h | ⟨_, hm, _⟩ <;> first | exact h env | cases hm

/-- find_node and get select relative to `target`, get_peers relative to `info_hash`. -/
theorem C08.target_by_method (c : SrvCfg) (mk : TokenFn) (s : Srv) (src : NAddr) (m : QMsg) (a : QArgs) (env : Env)
    (ha : m.a = some a) (o : Out) (r : Ret) (ho : o ∈ (dispatch c mk s src m env).1) (hr : o.kind = .reply r)
    (tgt : Id) (ht : r.nodesTarget = some tgt) :
    (m.q = str "find_node" → tgt = a.target) ∧ (m.q = str "get" → tgt = a.target) ∧
    (m.q = str "get_peers" → tgt = a.infoHash) := by
  -- `o` is the one datagram of the branch: an error is no reply, and a reply carries the branch's record
  have kerr : ∀ {code : Nat} {x : Id}, o ∈ [mkError src m.t code] → tgt = x := by
    intro code x ho'
    cases List.mem_singleton.mp ho'
    cases hr
  have key : ∀ {r' : Ret} {x : Id}, o ∈ [mkReply c src m.t r'] → (∀ y, r'.nodesTarget = some y → y = x) → tgt = x := by
    intro r' x ho' hx
    cases List.mem_singleton.mp ho'
    cases hr
    exact hx tgt ht
  refine ⟨fun hq => ?_, fun hq => ?_, fun hq => ?_⟩
  · rw [dispatch_find_node hq ha] at ho
    exact key ho fun y hy => (Option.some.inj hy).symm
  · -- every reply of `get` extends `getRet`, whose target is `a.target`
    rw [dispatch_get hq ha] at ho
    repeat' split at ho
    all_goals first | exact kerr ho | exact key ho fun y hy => (Option.some.inj hy).symm
  · -- `get_peers` sets a target only through `setReturnNodes … a.infoHash`
    rw [dispatch_get_peers hq ha] at ho
    refine key ho fun y hy => ?_
    revert hy
    fun_cases getPeersRet c mk s src a <;> intro hy
    · exact (Option.some.inj hy).symm
    · rename_i r _ -- peers were found: the record has no target, with or without a peer store
      cases (show r.nodesTarget = none by unfold r; split <;> rfl).symm.trans hy

/-! Non-vacuity -/
example : (processMsg { tbl := { root := List.replicate 20 1 } } (fun _ _ => []) {} ⟨[1,2,3,4], 5⟩
    { y := str "q", q := str "ping", t := [7], a := some { id := List.replicate 20 2 } } {}).map (·.2.1.length) = some 1 := by
  decide +kernel

/-- An unknown method gets error 204, find_node without arguments error 203, a response nothing. -/
example : (processMsg { tbl := { root := List.replicate 20 1 } } (fun _ _ => []) {} ⟨[1,2,3,4], 5⟩
    { y := str "q", q := str "vote", t := [7], a := some { id := List.replicate 20 2 } } {}).map (·.2.1) =
    some [mkError ⟨[1,2,3,4], 5⟩ [7] 204] := by
  decide +kernel
example : str "vote" ∉ knownMethods := by decide +kernel
example : (processMsg { tbl := { root := List.replicate 20 1 } } (fun _ _ => []) {} ⟨[1,2,3,4], 5⟩
    { y := str "q", q := str "find_node", t := [7] } {}).map (·.2.1) =
    some [mkError ⟨[1,2,3,4], 5⟩ [7] 203] := by
  decide +kernel
example : (processMsg { tbl := { root := List.replicate 20 1 } } (fun _ _ => []) {} ⟨[1,2,3,4], 5⟩
    { y := str "r", t := [7], rid := some (List.replicate 20 2) } {}).map (·.2.1) = some [] := by
  decide +kernel
/-- find_node selects relative to `target`, get_peers relative to `info_hash`. -/
example : ((dispatch { tbl := { root := List.replicate 20 1 } } (fun _ _ => []) {} ⟨[1,2,3,4], 5⟩
    { y := str "q", q := str "find_node", t := [7],
      a := some { id := List.replicate 20 2, target := List.replicate 20 4, infoHash := List.replicate 20 3 } } {}).1.map
    (fun o => match o.kind with | .reply r => r.nodesTarget | .error _ => none)) = [some (List.replicate 20 4)] := by
  decide +kernel
example : ((dispatch { tbl := { root := List.replicate 20 1 } } (fun _ _ => []) {} ⟨[1,2,3,4], 5⟩
    { y := str "q", q := str "get_peers", t := [7],
      a := some { id := List.replicate 20 2, target := List.replicate 20 4, infoHash := List.replicate 20 3 } } {}).1.map
    (fun o => match o.kind with | .reply r => r.nodesTarget | .error _ => none)) = [some (List.replicate 20 3)] := by
  decide +kernel

end Dht
