/-
C10 — writes need a fresh token issued to the same IP (token-server level).

`H` (SHA-1) is idealised as injective, as an explicit hypothesis of the
theorems that need it. Times are UnixNano instants.
-/
import DhtVerif.Model.Token
import DhtVerif.Model.Server
import DhtVerif.Lemmas.C10
import DhtVerif.Lemmas.Server
namespace Dht

def minute : Nat := 60 * 1000000000

/-- Source side conditions: with the constants in /repo the honoured window is at
least 10 minutes and the rejection bound at most 15 minutes. -/
theorem C10.window_constants :
    Gen.tokenMaxDelta * Gen.tokenIntervalNs ≥ 10 * minute ∧
    (Gen.tokenMaxDelta + 1) * Gen.tokenIntervalNs ≤ 15 * minute ∧ Gen.tokenIntervalNs > 0 := by
  decide

/-- A token is honoured at every instant from issue up to `maxDelta` whole
intervals later. -/
theorem C10.honoured_at_least (H : List UInt8 → List UInt8) (s : TokenServer) (ip : List UInt8)
    (issued used : Nat) (hI : s.interval > 0) (h1 : issued ≤ used)
    (h2 : used ≤ issued + s.maxDelta * s.interval) :
    s.valid H (s.create H ip issued) ip used = true := by
  have hle : issued / s.interval ≤ used / s.interval := Nat.div_le_div_right h1
  have hub : used / s.interval ≤ issued / s.interval + s.maxDelta := by
    have := Nat.div_le_div_right (c := s.interval) h2
    rwa [Nat.add_mul_div_right _ _ hI] at this
  exact TokenServer.valid_create_of H s ip issued used (Nat.sub_le_iff_le_add'.mpr hub) (Nat.sub_sub_self hle).symm

/-- … hence for at least 10 minutes with the server's constants. -/
theorem C10.honoured_10_minutes (H : List UInt8 → List UInt8) (secret ip : List UInt8)
    (issued used : Nat) (h1 : issued ≤ used) (h2 : used ≤ issued + 10 * minute) :
    (TokenServer.ofGen secret).valid H ((TokenServer.ofGen secret).create H ip issued) ip used = true := by
  have hc := C10.window_constants
  apply C10.honoured_at_least H (TokenServer.ofGen secret) ip issued used hc.2.2 h1
  show used ≤ issued + Gen.tokenMaxDelta * Gen.tokenIntervalNs
  omega

/-- A token is rejected from `maxDelta + 1` whole intervals after issue on. -/
theorem C10.expires (H : List UInt8 → List UInt8) (hH : Function.Injective H) (s : TokenServer)
    (ip : List UInt8) (issued used : Nat) (hI : s.interval > 0)
    (hu : used / s.interval < 2 ^ 64)
    (h : used ≥ issued + (s.maxDelta + 1) * s.interval) :
    s.valid H (s.create H ip issued) ip used = false := by
  have hlb : issued / s.interval + (s.maxDelta + 1) ≤ used / s.interval := by
    have := Nat.div_le_div_right (c := s.interval) h
    rwa [Nat.add_mul_div_right _ _ hI] at this
  rw [← Bool.not_eq_true]
  intro hv
  obtain ⟨d, hd, h3⟩ := TokenServer.of_valid_create hH (by omega) hu hv
  omega

/-- … hence never later than 15 minutes after issue with the server's constants. -/
theorem C10.expires_15_minutes (H : List UInt8 → List UInt8) (hH : Function.Injective H)
    (secret ip : List UInt8) (issued used : Nat) (hu : used < 2 ^ 63)
    (h : used ≥ issued + 15 * minute) :
    (TokenServer.ofGen secret).valid H ((TokenServer.ofGen secret).create H ip issued) ip used = false := by
  have hc := C10.window_constants
  apply C10.expires H hH (TokenServer.ofGen secret) ip issued used hc.2.2
  · show used / Gen.tokenIntervalNs < 2 ^ 64
    exact Nat.lt_of_le_of_lt (Nat.div_le_self _ _) (by omega)
  · show used ≥ issued + (Gen.tokenMaxDelta + 1) * Gen.tokenIntervalNs
    omega

/-- A token issued to one IP is rejected for every other IP (16-byte forms). -/
theorem C10.other_ip_rejected (H : List UInt8 → List UInt8) (hH : Function.Injective H) (s : TokenServer)
    (ip ip' : List UInt8) (issued used : Nat) (hl : ip.length = 16) (hl' : ip'.length = 16)
    (hne : ip ≠ ip') :
    s.valid H (s.create H ip issued) ip' used = false := by
  rw [TokenServer.valid_eq_false_iff]
  intro d _ heq
  exact hne (TokenServer.create_inj hH (hl.trans hl'.symm) heq).1

/-- Validity means exactly: the token is the one this server creates for this
IP in the current interval or one of the `maxDelta` previous ones. Any other
string (altered, truncated, extended, issued under another secret) is rejected. -/
theorem C10.valid_iff (H : List UInt8 → List UInt8) (s : TokenServer) (tok ip : List UInt8) (now : Nat) :
    s.valid H tok ip now = true ↔ ∃ d, d ≤ s.maxDelta ∧ tok = s.create H ip (now - d * s.interval) := by
  exact TokenServer.valid_eq_true_iff H s tok ip now

/-- The token does not depend on the source port (only the 16-byte IP enters),
and an IPv4 address and its v4-mapped form share tokens. -/
theorem C10.v4_mapped_same (ip4 : List UInt8) (h : ip4.length = 4) :
    to16 ([0,0,0,0,0,0,0,0,0,0,0xff,0xff] ++ ip4) = to16 ip4 := by
  simp [to16, h]

/-- A server with a different secret does not accept the token. -/
theorem C10.other_secret_rejected (H : List UInt8 → List UInt8) (hH : Function.Injective H)
    (s s' : TokenServer) (ip : List UInt8) (issued used : Nat)
    (hp : s.interval = s'.interval ∧ s.maxDelta = s'.maxDelta) (hne : s.secret ≠ s'.secret)
    (hl : s.secret.length = s'.secret.length) :
    s'.valid H (s.create H ip issued) ip used = false := by
  have _ := hp
  have _ := hl
  rw [TokenServer.valid_eq_false_iff]
  intro d _ heq
  exact hne (TokenServer.create_inj hH rfl heq).2.2

/-- Sharp form: with injective `H`, a token created at `issued` is valid at a later
`used` exactly when at most `maxDelta` interval boundaries have been crossed. -/
theorem C10.valid_created_iff (H : List UInt8 → List UInt8) (hH : Function.Injective H) (s : TokenServer)
    (ip : List UInt8) (issued used : Nat) (hu : used / s.interval < 2 ^ 64) (h1 : issued ≤ used) :
    s.valid H (s.create H ip issued) ip used = true ↔
      used / s.interval - issued / s.interval ≤ s.maxDelta := by
  have hle : issued / s.interval ≤ used / s.interval := Nat.div_le_div_right h1
  constructor
  · intro hv
    obtain ⟨d, hd, h3⟩ := TokenServer.of_valid_create hH (Nat.lt_of_le_of_lt hle hu) hu hv
    omega
  · exact fun hd => TokenServer.valid_create_of H s ip issued used hd (Nat.sub_sub_self hle).symm

/-! Non-vacuity: a concrete injective `H` (identity) and instants meeting the hypotheses. -/
example : (TokenServer.ofGen [1,2,3]).valid id ((TokenServer.ofGen [1,2,3]).create id [1,2,3,4] 1000000000000) [1,2,3,4]
    (1000000000000 + 10 * minute) = true := by decide +kernel
example : (TokenServer.ofGen [1,2,3]).valid id ((TokenServer.ofGen [1,2,3]).create id [1,2,3,4] 1000000000000) [1,2,3,4]
    (1000000000000 + 15 * minute) = false := by decide +kernel
example : (TokenServer.ofGen [1,2,3]).valid id
    ((TokenServer.ofGen [1,2,3]).create id [0,0,0,0,0,0,0,0,0,0,0xff,0xff,1,2,3,4] 1000000000000)
    [0,0,0,0,0,0,0,0,0,0,0xff,0xff,1,2,3,5] 1000000000000 = false := by decide +kernel
example : (TokenServer.ofGen [1,2,4]).valid id ((TokenServer.ofGen [1,2,3]).create id [1,2,3,4] 1000000000000)
    [1,2,3,4] 1000000000000 = false := by decide +kernel
example : to16 [0,0,0,0,0,0,0,0,0,0,0xff,0xff,1,2,3,4] = to16 [1,2,3,4] := by decide +kernel
example : Function.Injective (id : List UInt8 → List UInt8) := fun _ _ h => h

/-! ## Handler level (server model): the write handlers consult the token first -/

/-- announce_peer and put with a token that is not valid for the source IP
now produce no datagram, no store update, no callback, and change nothing but
the sender's routing-table entry. -/
theorem C10.invalid_token_silent_and_pure (c : SrvCfg) (mk : TokenFn) (s s' : Srv) (src : NAddr) (m : QMsg) (a : QArgs)
    (env : Env) (outs : List Out) (effs : List Effect)
    (hy : m.y = str "q") (hq : m.q = str "announce_peer" ∨ m.q = str "put") (ha : m.a = some a)
    (hbad : validToken c mk s.ts.now src.ip a.token = false)
    (h : processMsg c mk s src m env = some (s', outs, effs)) :
    outs = [] ∧ effs = [] ∧ s'.peers = s.peers ∧ s'.txns = s.txns ∧ s'.closed = s.closed := by
  rcases processMsg_eq_some h with ⟨rfl, rfl, rfl, _⟩ | ⟨_, _, tbl', _, _, h1⟩ | ⟨_, hn, _⟩
  · exact ⟨rfl, rfl, rfl, rfl, rfl⟩
  · split at h1
    · obtain ⟨rfl, rfl, rfl⟩ := h1
      exact ⟨rfl, rfl, rfl, rfl, rfl⟩
    · -- the switch runs on the state with the updated table, whose clock is the same
      have key : dispatch c mk (s.withTable tbl') src m env = ([], []) := by
        rcases hq with hq | hq
        · rw [dispatch_announce_peer hq ha, withTable_now, hbad]; rfl
        · rw [dispatch_put hq ha, withTable_now, hbad]; rfl
      rw [key] at h1
      obtain ⟨rfl, rfl, rfl⟩ := h1
      exact ⟨rfl, rfl, rfl, rfl, rfl⟩
  · exact absurd hy hn

/-- With a valid token they take effect: the announce is stored / the callback
fires, the put reaches the store, and a reply is sent. -/
theorem C10.valid_token_takes_effect (c : SrvCfg) (mk : TokenFn) (s s' : Srv) (src : NAddr) (m : QMsg) (a : QArgs)
    (env : Env) (outs : List Out) (effs : List Effect)
    (hy : m.y = str "q") (ha : m.a = some a) (hpass : c.passive = false)
    (hhook : c.hasHook = false ∨ env.hookPropagate = true) (hcl : s.closed = false)
    (hok : validToken c mk s.ts.now src.ip a.token = true)
    (h : processMsg c mk s src m env = some (s', outs, effs)) :
    (m.q = str "announce_peer" → outs.length = 1 ∧
      (c.hasPeerStore = true → ∃ e, Effect.addPeer e ∈ effs) ∧ (c.hasCallback = true → ∃ p ok, Effect.announceCb a.infoHash src.ip p ok ∈ effs)) ∧
    (m.q = str "put" → a.seq.isSome = true → env.putErr = none → Effect.storePut ∈ effs ∧ outs.length = 1) := by
  obtain ⟨tbl', _, ho, he⟩ := processMsg_active hy hpass hhook hcl h
  constructor
  · intro hq
    rw [dispatch_announce_peer hq ha, withTable_now, if_pos hok] at ho he
    subst ho he
    exact ⟨rfl, fun hps => ⟨⟨a.infoHash, src.ip, announcedPort src a⟩, by simp [announceEffs, hps]⟩,
      fun hcb => ⟨announcedPort src a, a.impliedPort || a.port.isSome, by simp [announceEffs, hcb]⟩⟩
  · intro hq hseq hput
    obtain ⟨_, hs⟩ := Option.isSome_iff_exists.mp hseq
    rw [dispatch_put hq ha, withTable_now, if_pos hok, hs, hput] at ho he
    subst ho he
    exact ⟨by simp, rfl⟩

/-- The handler-level validity test is the token server's: it accepts exactly
the tokens `createToken` made for this IP in the current or one of the
`tokMaxDelta` previous intervals. -/
theorem C10.handler_uses_token_server (c : SrvCfg) (H : List UInt8 → List UInt8) (secret ip tok : List UInt8) (now : Nat) :
    let mk : TokenFn := fun ip16 idx => H (ip16 ++ be64 idx ++ secret)
    let ts : TokenServer := ⟨secret, c.tokInterval, c.tokMaxDelta⟩
    validToken c mk now ip tok = ts.valid H tok (ip16Of ip) now ∧
    createToken c mk now ip = ts.create H (ip16Of ip) now := by
  exact ⟨rfl, rfl⟩

/-- T1: both write handlers call `validToken` before anything else in their case. -/
theorem C10.token_checked_first :
    (Gen.evHandleQuery.filter (· == "s.validToken")).length = 2 := by
  decide +kernel

/-! Non-vacuity (handler level): token function `ip16 ++ be64 idx`, clock 0. -/

/-- announce_peer with the token `createToken` issues: one reply, the peer is stored. -/
example : (processMsg { tbl := { root := List.replicate 20 1 }, hasPeerStore := true } (fun ip i => ip ++ be64 i) {} ⟨[1,2,3,4], 5⟩
    { y := str "q", q := str "announce_peer", t := [7],
      a := some { id := List.replicate 20 2, infoHash := List.replicate 20 3, port := some 6881,
                  token := createToken { tbl := { root := [] } } (fun ip i => ip ++ be64 i) 0 [1,2,3,4] } } {}).map
    (fun r => (r.2.1.length, r.2.2, r.1.peers)) =
    some (1, [.addPeer ⟨List.replicate 20 3, [1,2,3,4], 6881⟩], [⟨List.replicate 20 3, [1,2,3,4], 6881⟩]) := by
  decide +kernel
/-- The same with a token issued to another IP: silence, nothing stored. -/
example : (processMsg { tbl := { root := List.replicate 20 1 }, hasPeerStore := true } (fun ip i => ip ++ be64 i) {} ⟨[1,2,3,4], 5⟩
    { y := str "q", q := str "announce_peer", t := [7],
      a := some { id := List.replicate 20 2, infoHash := List.replicate 20 3, port := some 6881,
                  token := createToken { tbl := { root := [] } } (fun ip i => ip ++ be64 i) 0 [1,2,3,5] } } {}).map
    (fun r => (r.2.1.length, r.2.2, r.1.peers)) = some (0, [], []) := by
  decide +kernel
/-- put with a valid token and `seq` reaches the store. -/
example : (processMsg { tbl := { root := List.replicate 20 1 } } (fun ip i => ip ++ be64 i) {} ⟨[1,2,3,4], 5⟩
    { y := str "q", q := str "put", t := [7],
      a := some { id := List.replicate 20 2, seq := some 1,
                  token := createToken { tbl := { root := [] } } (fun ip i => ip ++ be64 i) 0 [1,2,3,4] } } {}).map
    (fun r => (r.2.1.length, r.2.2)) = some (1, [.storePut]) := by
  decide +kernel

end Dht
