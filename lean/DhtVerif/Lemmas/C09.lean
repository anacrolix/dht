/- An accepted bucket walk as an inductive derivation (`Walk`), what it implies
(`walk_sound`, `walk_complete`), and the deterministic walk as an instance. -/
import DhtVerif.Lemmas.C05
namespace Dht
namespace C09L

theorem mem_eligible {c : TableCfg} {now : Nat} {t : Table} {fam : Node → Bool} {i : Nat} {m : Node} :
    m ∈ eligible c now t fam i ↔ m ∈ t ∧ m.bucket c = some i ∧ isGood c now m = true ∧ fam m = true := by
  simp [eligible, mem_bucketNodes, and_assoc]

theorem eligible_bucket {c : TableCfg} {now : Nat} {t : Table} {fam : Node → Bool} {i : Nat} {m : Node}
    (h : m ∈ eligible c now t fam i) : m.bucket c = some i := (mem_eligible.mp h).2.1

theorem eligible_nodup (c : TableCfg) (now : Nat) (t : Table) (fam : Node → Bool) (i : Nat)
    (hnd : t.Nodup) : (eligible c now t fam i).Nodup :=
  (hnd.sublist List.filter_sublist).sublist List.filter_sublist

section
variable (c : TableCfg) (now : Nat) (t : Table) (fam : Node → Bool) (k : Nat)

/-- An accepted walk from bucket `i` with `got` collected, as a derivation: the quota was full already;
or bucket `i` is the last one visited (it fills the quota, or `i = 0`) and gives `min (k - got) _` of
its eligible entries; or bucket `i` is taken whole and the walk goes on below. -/
inductive Walk : Nat → Nat → List Node → Prop
  | full {i got} (h : k ≤ got) : Walk i got []
  | last {i got rest} (hlt : got < k) (hlen : rest.length = min (k - got) (eligible c now t fam i).length)
      (hsub : ∀ x ∈ rest, x ∈ eligible c now t fam i) (hnd : rest.Nodup)
      (hz : i = 0 ∨ k ≤ got + (eligible c now t fam i).length) : Walk i got rest
  | more {i got here below} (hlt : got + (eligible c now t fam (i + 1)).length < k)
      (hlen : here.length = (eligible c now t fam (i + 1)).length)
      (hsub : ∀ x ∈ here, x ∈ eligible c now t fam (i + 1)) (hnd : here.Nodup)
      (hrec : Walk i (got + (eligible c now t fam (i + 1)).length) below) : Walk (i + 1) got (here ++ below)

theorem walk_of_allowed {i got : Nat} {rest : List Node}
    (h : walkAllowed c now t fam k i got rest = true) : Walk c now t fam k i got rest := by
  fun_induction walkAllowed c now t fam k i got rest
  -- bucket 0: quota full | last bucket;  bucket `i + 1`: quota full | fills the quota | taken whole, walk goes on
  case case1 hk | case3 hk => rw [List.isEmpty_iff.mp h]; exact .full hk
  all_goals simp only [Bool.and_eq_true, beq_iff_eq, decide_eq_true_eq, List.all_eq_true, List.contains_iff_mem] at h
  case case2 hk el need => exact .last (by omega) h.1.1 h.1.2 h.2 (.inl rfl)
  case case4 hk el hq =>
    exact .last (by omega) (h.1.1.trans (Nat.min_eq_left (Nat.sub_le_iff_le_add'.mpr hq)).symm) h.1.2 h.2 (.inr hq)
  case case5 rest hk el hq here ih =>
    rw [← List.take_append_drop el.length rest]
    exact .more (Nat.lt_of_not_ge hq) h.1.1.1 h.1.1.2 h.1.2 (ih h.2)

theorem walk_of_closest {target : Id} {ret : List Node} (h : closestAllowed c now t fam k target ret = true) :
    Walk c now t fam k (startBucket c target) 0 ret :=
  walk_of_allowed c now t fam k h

variable {c now t fam k}

theorem walk_sound {i got : Nat} {rest : List Node} (h : Walk c now t fam k i got rest) (hgk : got ≤ k) :
    got + rest.length ≤ k ∧ rest.Nodup ∧ ∀ n ∈ rest, ∃ j, j ≤ i ∧ n ∈ eligible c now t fam j := by
  induction h with
  | full hk => simp; omega
  | @last i _ _ hlt hlen hsub hnd _ => exact ⟨by omega, hnd, fun n hn => ⟨i, Nat.le_refl _, hsub n hn⟩⟩
  | @more i _ here below hlt hlen hsub hnd _ ih =>
    obtain ⟨h1, h2, h3⟩ := ih (by omega)
    refine ⟨by simp; omega, List.nodup_append.mpr ⟨hnd, h2, ?_⟩, ?_⟩
    · -- `here` sits in bucket `i + 1`, `below` in buckets up to `i`
      intro a ha b hb hab
      subst hab
      obtain ⟨j, hj, hm⟩ := h3 a hb
      cases (eligible_bucket (hsub a ha)).symm.trans (eligible_bucket hm)
      exact Nat.not_succ_le_self i hj
    · intro n hn
      rcases List.mem_append.mp hn with hn | hn
      · exact ⟨i + 1, Nat.le_refl _, hsub n hn⟩
      · obtain ⟨j, hj, hm⟩ := h3 n hn
        exact ⟨j, by omega, hm⟩

/-- Each bucket the walk may visit is taken whole, unless the quota was filled at or above it. -/
theorem walk_complete {s got : Nat} {rest : List Node} (h : Walk c now t fam k s got rest) :
    ∀ i, i ≤ s → (∀ m ∈ eligible c now t fam i, m ∈ rest) ∨
      (k ≤ got + rest.length ∧ ∀ n ∈ rest, ∀ j, n.bucket c = some j → i ≤ j) := by
  induction h with
  | full hk => exact fun i _ => .inr ⟨by simp; omega, by simp⟩
  | @last s got rest hlt hlen hsub hnd hz =>
    intro i hi
    by_cases hfull : k ≤ got + rest.length
    · refine .inr ⟨hfull, fun n hn j hj => ?_⟩
      cases hj.symm.trans (eligible_bucket (hsub n hn))
      exact hi
    · have : i = s := by omega
      subst this
      exact .inl (subset_of_nodup_of_length_le hnd hsub (by omega))
  | @more s got here below hlt hlen hsub hnd _ ih =>
    intro i hi
    by_cases his : i = s + 1
    · subst his
      exact .inl fun m hm => List.mem_append_left _ (subset_of_nodup_of_length_le hnd hsub (by omega) m hm)
    · rcases ih i (by omega) with hall | ⟨hk, hlow⟩
      · exact .inl fun m hm => List.mem_append_right _ (hall m hm)
      · refine .inr ⟨by simp; omega, fun n hn j hj => ?_⟩
        rcases List.mem_append.mp hn with hn | hn
        · cases hj.symm.trans (eligible_bucket (hsub n hn))
          exact hi
        · exact hlow n hn j hj

variable (c now t fam k)

theorem walkDet_full (i : Nat) (acc : List Node) (h : k ≤ acc.length) :
    walkDet c now t fam k i acc = acc.take k := by
  cases i <;> simp [walkDet, h]

theorem walkAllowed_full (i got : Nat) (h : k ≤ got) :
    walkAllowed c now t fam k i got [] = true := by
  cases i <;> simp [walkAllowed, h]

theorem walkDet_spec (hnd : t.Nodup) (i : Nat) (acc : List Node) (hacc : acc.length ≤ k) :
    ∃ r, walkDet c now t fam k i acc = acc ++ r ∧ walkAllowed c now t fam k i acc.length r = true := by
  fun_induction walkDet c now t fam k i acc
  -- the quota is full at bucket 0 | bucket 0 is cut to the quota;  full at bucket `i + 1` | bucket `i + 1` is added
  case case1 hk | case3 hk =>
    exact ⟨[], by rw [List.take_of_length_le hacc, List.append_nil], walkAllowed_full c now t fam k _ _ hk⟩
  case case2 acc hk =>
    refine ⟨(eligible c now t fam 0).take (k - acc.length), ?_, ?_⟩
    · rw [List.take_append, List.take_of_length_le hacc]
    · simp only [walkAllowed, hk, if_false, Bool.and_eq_true, beq_iff_eq, decide_eq_true_eq,
        List.all_eq_true, List.contains_iff_mem]
      exact ⟨⟨by simp, fun x hx => List.mem_of_mem_take hx⟩,
        (eligible_nodup c now t fam 0 hnd).sublist (List.take_sublist _ _)⟩
  case case4 i acc hk ih =>
    by_cases hq : k ≤ acc.length + (eligible c now t fam (i + 1)).length
    · refine ⟨(eligible c now t fam (i + 1)).take (k - acc.length), ?_, ?_⟩
      · rw [walkDet_full c now t fam k i _ (by simpa using hq), List.take_append, List.take_of_length_le hacc]
      · simp only [walkAllowed, ge_iff_le, hk, hq, if_false, if_true, Bool.and_eq_true, beq_iff_eq,
          decide_eq_true_eq, List.all_eq_true, List.contains_iff_mem]
        exact ⟨⟨by simp; omega, fun x hx => List.mem_of_mem_take hx⟩,
          (eligible_nodup c now t fam _ hnd).sublist (List.take_sublist _ _)⟩
    · obtain ⟨r, hr, hw⟩ := ih (by simp; omega)
      refine ⟨eligible c now t fam (i + 1) ++ r, by rw [hr, List.append_assoc], ?_⟩
      simp only [walkAllowed, ge_iff_le, hk, hq, if_false, Bool.and_eq_true, beq_iff_eq, decide_eq_true_eq,
        List.all_eq_true, List.contains_iff_mem]
      rw [List.take_left, List.drop_left]
      exact ⟨⟨⟨rfl, fun x hx => hx⟩, eligible_nodup c now t fam _ hnd⟩, by simpa using hw⟩

end
end C09L
end Dht
