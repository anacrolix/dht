/-
C02 — a finished lookup holds the K closest nodes that answered.
-/
import DhtVerif.Props.C18
import DhtVerif.Lemmas.C02
import DhtVerif.Lemmas.TravEx
namespace Dht

/-- Generalisation over the start state: the closest set is a K-nearest container
reached by pushing exactly the offered responders. -/
theorem C02.reach_gen (c : TravCfg) (evs : List TravEv) (s0 s : Trav) (hist : List KElem)
    (hr : KNN.Reach c.target c.k hist s0.closest) (h : Trav.exec c s0 evs = some s) :
    KNN.Reach c.target c.k (hist ++ offered c s0 evs) s.closest :=
  Trav.exec_reach hr h

theorem C02.reach (c : TravCfg) (evs : List TravEv) (s : Trav)
    (h : Trav.exec c {} evs = some s) :
    KNN.Reach c.target c.k (offered c {} evs) s.closest := by
  have := C02.reach_gen c evs {} s [] KNN.Reach.init h
  simpa using this

/-- At most K contacts, in distance order, no key twice. -/
theorem C02.closest_le_K (c : TravCfg) (evs : List TravEv) (s : Trav)
    (h : Trav.exec c {} evs = some s) :
    s.closest.length ≤ c.k ∧ KNN.sortedBy c.target s.closest = true ∧ KNN.nodupKeys s.closest = true := by
  have hinv := C18.knn_invariant _ _ _ _ (C02.reach c evs s h)
  refine ⟨?_, (KNN.sortedBy_iff _ _).mpr hinv.sorted, (KNN.nodupKeys_iff _).mpr hinv.nodupS⟩
  rw [hinv.len]; exact Nat.min_le_left _ _

/-- Every member answered a query of this lookup and passed the node and data filters. -/
theorem C02.members_responded_and_pass_filters (c : TravCfg) (evs : List TravEv) (s : Trav)
    (h : Trav.exec c {} evs = some s) :
    ∀ m ∈ s.closest, m ∈ offered c {} evs ∧ c.nodeFilter ⟨some m.id, m.addr⟩ = true ∧ c.dataFilter m.data = true := by
  intro m hm
  have hinv := C18.knn_invariant _ _ _ _ (C02.reach c evs s h)
  have hmo : m ∈ offered c {} evs := KNN.mem_latest_imp _ m (hinv.sub m hm)
  have hok := Trav.exec_offered_induct (hist := [])
    (P := fun hist _ => ∀ m ∈ hist, c.nodeFilter ⟨some m.id, m.addr⟩ = true ∧ c.dataFilter m.data = true) h
    (fun _ hm => nomatch hm)
    (fun e _ _ s _ ih _ m hm => (List.mem_append.mp hm).elim (ih m) (offeredAt_ok c s e m))
  exact ⟨hmo, hok m (List.nil_append _ ▸ hmo)⟩

/-- The closest set is exactly the K nearest of the responders that passed the
filters (each with its latest data): its size is `min K (#distinct responders)`
and no responder outside it is strictly closer to the target than a member. -/
theorem C02.closest_is_k_nearest_of_responders (c : TravCfg) (evs : List TravEv) (s : Trav)
    (h : Trav.exec c {} evs = some s) :
    s.closest.length = min c.k (KNN.latest (offered c {} evs)).length ∧
    (∀ m ∈ s.closest, m ∈ KNN.latest (offered c {} evs)) ∧
    (∀ p ∈ KNN.latest (offered c {} evs), p ∉ s.closest → ∀ m ∈ s.closest, m.dist c.target ≤ p.dist c.target) := by
  have := C18.knn_retains_k_nearest _ _ _ _ (C02.reach c evs s h)
  exact ⟨this.1, this.2.2.1, this.2.2.2⟩

/-! ## Non-vacuity: the concrete lookup `TravEx` of Lemmas/TravEx -/

/-- Three responders are offered (distances 3, 5, 1), K = 2: the closest set ends up as the two
nearest, in distance order; the responder at distance 5 was pushed out. -/
example : (Trav.exec TravEx.cfg {} TravEx.evs).map (·.closest) =
    some [⟨TravEx.nid 1, TravEx.addr 4, some [2]⟩, ⟨TravEx.nid 3, TravEx.addr 1, some [1]⟩] := by
  decide +kernel

example : offered TravEx.cfg {} TravEx.evs =
    [⟨TravEx.nid 3, TravEx.addr 1, some [1]⟩, ⟨TravEx.nid 5, TravEx.addr 2, none⟩,
     ⟨TravEx.nid 1, TravEx.addr 4, some [2]⟩] := by
  decide +kernel

def idxC (l : List String) (x : String) : Nat := l.findIdx (· == x)

/-- T1: the closest set is a persistent structure that is read, pushed into and stored back in ONE critical
section of the operation's lock: `addClosest` is called from the query goroutine between `op.mu.Lock()`
and the deferred unlock, its `Push` is immediately followed by the store, and it neither releases nor
re-takes the lock in between. (Built outside the lock, two replies folded in concurrently lose one
responder: the model's `queryReturn` step is atomic for this reason.) -/
theorem C02.closest_set_updated_under_lock :
    Gen.evStartQuery.getD (idxC Gen.evStartQuery "op.addClosest" - 5) "" = "op.mu.Lock" ∧
    Gen.evStartQuery.getD (idxC Gen.evStartQuery "op.addClosest" - 4) "" = "defer" ∧
    Gen.evStartQuery.getD (idxC Gen.evStartQuery "op.addClosest" - 3) "" = "op.mu.Unlock" ∧
    Gen.evStartQuery.getD (idxC Gen.evStartQuery "op.addClosest" + 1) "" = "}" ∧
    Gen.evAddClosest.getD (idxC Gen.evAddClosest "op.closest.Push" + 1) "" = "set:op.closest" ∧
    Gen.evAddClosest.contains "op.mu.Lock" = false ∧ Gen.evAddClosest.contains "op.mu.Unlock" = false := by
  decide +kernel

end Dht
