/- T1 by translation (DESIGN.md 12.3a): `Operation.haveQuery`. -/
import DhtVerif.Lemmas.SourceTrees
import DhtVerif.Model.Traversal
namespace Dht
open Gen (DExp)

def hqLetsExpected : List String :=
  ["$1 := op.closestUnqueried()", "$2 := $1.Id.Value.Distance(op.targetInt160)",
   "$3 := op.closest.Farthest().ID.Int160().Distance(op.targetInt160)"]

def hqCond (c : TravCfg) (s : Trav) : String → Option Bool
  | "op.unqueried.Len() == 0" => some s.unq.isEmpty
  | "!op.closest.Full()" => some (!KNN.full c.k s.closest)
  | "!$1.Id.Ok" => some ((s.unq.head?.bind (·.id)).isNone)
  | _ => none

def hqRet (c : TravCfg) (s : Trav) : String → Option Bool
  | "false" => some false
  | "true" => some true
  | "$2.Cmp($3) <= 0" =>
    match s.unq.head?.bind (·.id), KNN.farthest s.closest with
    | some i, some far => some (Id.cmp (Id.distance i c.target) (Id.distance far.id c.target) != .gt)
    | _, _ => some false
  | _ => none

theorem SourceTrees.haveQuery (c : TravCfg) (s : Trav) :
    Gen.treeHaveQueryLets = hqLetsExpected ∧
    DExp.evalWith (hqCond c s) (hqRet c s) Gen.treeHaveQuery = some (s.haveQuery c) := by
  refine ⟨rfl, ?_⟩
  simp only [Gen.treeHaveQuery, DExp.evalWith_ite, DExp.evalWith_ret, hqCond, hqRet, Option.bind_some, Trav.haveQuery]
  cases hu : s.unq with
  | nil => simp
  | cons cu rest =>
    cases hf : KNN.full c.k s.closest <;> cases hid : cu.id <;> cases hfar : KNN.farthest s.closest <;> simp_all

/-- Negative check: `<= 0` changed to `< 0` in the final comparison. Unknown atom: no value whenever the
closest set is full and the closest unqueried candidate has an ID. -/
def treeHaveQueryMutLt : DExp := DExp.ite "op.unqueried.Len() == 0" (DExp.ret "false") (DExp.ite "!op.closest.Full()" (DExp.ret "true") (DExp.ite "!$1.Id.Ok" (DExp.ret "false") (DExp.ret "$2.Cmp($3) < 0")))

theorem SourceTrees.haveQuery_mutLt_none (c : TravCfg) (s : Trav) (cu : Cand) (rest : List Cand) (i : Id)
    (hu : s.unq = cu :: rest) (hf : KNN.full c.k s.closest = true) (hi : cu.id = some i) :
    DExp.evalWith (hqCond c s) (hqRet c s) treeHaveQueryMutLt = none := by
  simp [treeHaveQueryMutLt, DExp.evalWith_ite, DExp.evalWith_ret, hqCond, hqRet, hu, hf, hi]

example : ¬ ∀ (c : TravCfg) (s : Trav),
    DExp.evalWith (hqCond c s) (hqRet c s) treeHaveQueryMutLt = some (s.haveQuery c) := by
  intro h
  have h' := h { target := [0], k := 0 } { unq := [⟨some [1], ⟨1, [1, 2, 3, 4], 1⟩⟩] }
  rw [SourceTrees.haveQuery_mutLt_none _ _ ⟨some [1], ⟨1, [1, 2, 3, 4], 1⟩⟩ [] [1] rfl (by decide) rfl] at h'
  exact absurd h' (by simp)

/-- Negative check: the `Full` test without its negation. Unknown atom: no value for any non-empty frontier. -/
def treeHaveQueryMutFull : DExp := DExp.ite "op.unqueried.Len() == 0" (DExp.ret "false") (DExp.ite "op.closest.Full()" (DExp.ret "true") (DExp.ite "!$1.Id.Ok" (DExp.ret "false") (DExp.ret "$2.Cmp($3) <= 0")))

example (c : TravCfg) (s : Trav) (cu : Cand) (rest : List Cand) (hu : s.unq = cu :: rest) :
    DExp.evalWith (hqCond c s) (hqRet c s) treeHaveQueryMutFull = none := by
  simp [treeHaveQueryMutFull, DExp.evalWith_ite, hqCond, hu]

/-- Negative check: a changed `let` (the distance of `cu` taken to something else) is seen by the first conjunct. -/
example : ["$1 := op.closestUnqueried()", "$2 := $1.Id.Value.Distance(op.rootInt160)",
   "$3 := op.closest.Farthest().ID.Int160().Distance(op.targetInt160)"] ≠ hqLetsExpected := by decide

end Dht
