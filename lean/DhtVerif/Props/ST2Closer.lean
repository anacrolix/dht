/- T1 by translation (DESIGN.md 12.3a): the closeness comparisons, `CloserThan` and the two `Compare`s. -/
import DhtVerif.Lemmas.SourceTrees
import DhtVerif.Model.SourceTrees2
import DhtVerif.Model.Traversal
namespace Dht
open Gen (DExp SExp)

/-! ### types.AddrMaybeId.CloserThan (statement tree; state = the `multiless.Computation` `ml`) -/

def ctStep (target : Id) (l r : Cand) : String → ML → Option ML
  | "$1 := multiless.New().Bool(!l.Id.Ok, !r.Id.Ok)" => fun _ => some (ML.new.bool (!l.id.isSome) (!r.id.isSome))
  | "$1 = $1.Cmp(l.Id.Value.Distance(target).Cmp(r.Id.Value.Distance(target)))" => fun ml =>
    match l.id, r.id with
    | some li, some ri => some (ml.cmp (Id.cmp (Id.distance li target) (Id.distance ri target)))
    | _, _ => none
  | "$1 = $1.Cmp(l.Addr.Addr().Compare(r.Addr.Addr()))" => fun ml => some (ml.cmp (l.addr.cmpAddr r.addr))
  | "$1 = multiless.EagerOrdered($1, l.Addr.Port(), r.Addr.Port())" => fun ml =>
    some (ml.eagerOrdered l.addr.port r.addr.port)
  | _ => fun _ => none

def ctCond (l r : Cand) : String → ML → Option Bool
  | "l.Id.Ok && r.Id.Ok" => fun _ => some (l.id.isSome && r.id.isSome)
  | "!$1.Ok()" => fun ml => some (!ml.ok)
  | _ => fun _ => none

def ctRet : String → ML → Option Bool
  | "$1.Less()" => fun ml => some ml.less
  | _ => fun _ => none

theorem Addr.cmp_eq_cmpAddr (l r : Addr) :
    l.cmp r = (match l.cmpAddr r with
      | .lt => .lt
      | .gt => .gt
      | .eq => compare l.port r.port) := by
  simp only [Addr.cmp, Addr.cmpAddr]
  split
  · rfl
  · split
    · rfl
    · rfl

theorem Nat.decide_lt_eq_compare (a b : Nat) : decide (a < b) = (compare a b == Ordering.lt) := by
  rw [Bool.eq_iff_iff]; simp [Nat.compare_eq_lt]

/-- The last two links of the chain (address, port) on an undecided computation. -/
theorem ML.addr_port_less (l r : Addr) :
    ((ML.new.cmp (l.cmpAddr r)).eagerOrdered l.port r.port).less = (l.cmp r == .lt) := by
  rw [Addr.cmp_eq_cmpAddr]
  cases h : l.cmpAddr r <;> simp [ML.new, ML.cmp, ML.eagerSameLess, ML.eagerOrdered]
  · by_cases hp : l.port = r.port
    · simp [hp]
    · simp [hp, Nat.decide_lt_eq_compare]

theorem ML.new_bool_same (a : Bool) : ML.new.bool a a = ML.new := by cases a <;> rfl
theorem ML.new_bool_ft : ML.new.bool false true = ⟨true, true⟩ := rfl
theorem ML.new_bool_tf : ML.new.bool true false = ⟨true, false⟩ := rfl
theorem ML.new_cmp_lt : ML.new.cmp .lt = ⟨true, true⟩ := rfl
theorem ML.new_cmp_gt : ML.new.cmp .gt = ⟨true, false⟩ := rfl
theorem ML.new_cmp_eq : ML.new.cmp .eq = ML.new := rfl
theorem ML.new_ok : ML.new.ok = false := rfl

/-- `AddrMaybeId.CloserThan` in types/addr-maybe-id.go computes exactly the model's `closerThan`,
whatever the initial value of the local `ml`. -/
theorem SourceTrees.closerThan (target : Id) (l r : Cand) (ml0 : ML) :
    SExp.evalWith (ctStep target l r) (ctCond l r) ctRet Gen.stmCloserThan ml0 = some (closerThan target l r) := by
  have hap := ML.addr_port_less l.addr r.addr
  simp only [Gen.stmCloserThan, SExp.evalWith_seq, SExp.evalWith_ite, SExp.evalWith_ret, ctStep, ctCond, ctRet,
    Option.bind_some, Dht.closerThan]
  rcases l.id with _ | li <;> rcases r.id with _ | ri
  case some.some =>
    cases hd : Id.cmp (Id.distance li target) (Id.distance ri target) <;>
      simp [hd, ML.new_bool_same, ML.new_cmp_lt, ML.new_cmp_gt, ML.new_cmp_eq, ML.new_ok, hap]
  all_goals simp [ML.new_bool_same, ML.new_bool_tf, ML.new_bool_ft, ML.new_ok, hap]

/-- Negative check: the distance comparison with its operands exchanged. Unknown statement: no value
whenever both IDs are known. -/
def stmCloserThanMutSwap : SExp := SExp.seq "$1 := multiless.New().Bool(!l.Id.Ok, !r.Id.Ok)" (SExp.ite "l.Id.Ok && r.Id.Ok" (SExp.seq "$1 = $1.Cmp(r.Id.Value.Distance(target).Cmp(l.Id.Value.Distance(target)))" (SExp.ite "!$1.Ok()" (SExp.seq "$1 = $1.Cmp(l.Addr.Addr().Compare(r.Addr.Addr()))" (SExp.seq "$1 = multiless.EagerOrdered($1, l.Addr.Port(), r.Addr.Port())" (SExp.ret "$1.Less()"))) (SExp.ret "$1.Less()"))) (SExp.ite "!$1.Ok()" (SExp.seq "$1 = $1.Cmp(l.Addr.Addr().Compare(r.Addr.Addr()))" (SExp.seq "$1 = multiless.EagerOrdered($1, l.Addr.Port(), r.Addr.Port())" (SExp.ret "$1.Less()"))) (SExp.ret "$1.Less()")))

theorem SourceTrees.closerThan_mutSwap_none (target : Id) (l r : Cand) (ml0 : ML)
    (hl : l.id.isSome = true) (hr : r.id.isSome = true) :
    SExp.evalWith (ctStep target l r) (ctCond l r) ctRet stmCloserThanMutSwap ml0 = none := by
  simp [stmCloserThanMutSwap, SExp.evalWith_seq, SExp.evalWith_ite, ctStep, ctCond, hl, hr]

example : ¬ ∀ (target : Id) (l r : Cand) (ml0 : ML),
    SExp.evalWith (ctStep target l r) (ctCond l r) ctRet stmCloserThanMutSwap ml0 = some (closerThan target l r) := by
  intro h
  have h' := h [0] ⟨some [1], ⟨1, [1, 2, 3, 4], 1⟩⟩ ⟨some [2], ⟨1, [1, 2, 3, 4], 1⟩⟩ ML.new
  rw [SourceTrees.closerThan_mutSwap_none _ _ _ _ rfl rfl] at h'
  exact absurd h' (by simp)

/-- Negative check with known atoms only: the port comparison dropped (both copies). The tree evaluates,
but two candidates without ID at one IP and ports 1 < 2 are no longer ordered. -/
def stmCloserThanMutNoPort : SExp := SExp.seq "$1 := multiless.New().Bool(!l.Id.Ok, !r.Id.Ok)" (SExp.ite "l.Id.Ok && r.Id.Ok" (SExp.seq "$1 = $1.Cmp(l.Id.Value.Distance(target).Cmp(r.Id.Value.Distance(target)))" (SExp.ite "!$1.Ok()" (SExp.seq "$1 = $1.Cmp(l.Addr.Addr().Compare(r.Addr.Addr()))" (SExp.ret "$1.Less()")) (SExp.ret "$1.Less()"))) (SExp.ite "!$1.Ok()" (SExp.seq "$1 = $1.Cmp(l.Addr.Addr().Compare(r.Addr.Addr()))" (SExp.ret "$1.Less()")) (SExp.ret "$1.Less()")))

example :
    SExp.evalWith (ctStep [0] ⟨none, ⟨1, [1, 2, 3, 4], 1⟩⟩ ⟨none, ⟨1, [1, 2, 3, 4], 2⟩⟩)
      (ctCond ⟨none, ⟨1, [1, 2, 3, 4], 1⟩⟩ ⟨none, ⟨1, [1, 2, 3, 4], 2⟩⟩) ctRet stmCloserThanMutNoPort ML.new = some false ∧
    closerThan [0] ⟨none, ⟨1, [1, 2, 3, 4], 1⟩⟩ ⟨none, ⟨1, [1, 2, 3, 4], 2⟩⟩ = true := by
  simp only [stmCloserThanMutNoPort, SExp.evalWith_seq, SExp.evalWith_ite, SExp.evalWith_ret, ctStep, ctCond, ctRet,
    Option.bind_some]
  decide +kernel

/-- Non-vacuity: the theorem's equation on concrete candidates (IDs 1 and 2 seen from target 0; an unknown ID sorts last). -/
example :
    SExp.evalWith (ctStep [0] ⟨some [1], ⟨1, [9, 9, 9, 9], 1⟩⟩ ⟨some [2], ⟨1, [1, 2, 3, 4], 1⟩⟩)
      (ctCond ⟨some [1], ⟨1, [9, 9, 9, 9], 1⟩⟩ ⟨some [2], ⟨1, [1, 2, 3, 4], 1⟩⟩) ctRet Gen.stmCloserThan ML.new = some true ∧
    SExp.evalWith (ctStep [0] ⟨none, ⟨1, [1, 2, 3, 4], 1⟩⟩ ⟨some [2], ⟨1, [1, 2, 3, 4], 1⟩⟩)
      (ctCond ⟨none, ⟨1, [1, 2, 3, 4], 1⟩⟩ ⟨some [2], ⟨1, [1, 2, 3, 4], 1⟩⟩) ctRet Gen.stmCloserThan ML.new = some false := by
  rw [SourceTrees.closerThan, SourceTrees.closerThan]
  decide +kernel

/-! ### containers.closerThanTarget.Compare and k_nearest_nodes.lessComparer[K].Compare -/

/-- The meaning of a `CloserThan` call is the evaluation of the source of `CloserThan` itself. -/
def cttCond (target : Id) (l r : Cand) : String → Option Bool
  | "l.CloserThan(r, me.target)" =>
    SExp.evalWith (ctStep target l r) (ctCond l r) ctRet Gen.stmCloserThan ML.new
  | "r.CloserThan(l, me.target)" =>
    SExp.evalWith (ctStep target r l) (ctCond r l) ctRet Gen.stmCloserThan ML.new
  | _ => none

/-- Go's three-way `int` results. -/
def cmpRet : String → Option Ordering
  | "-1" => some .lt
  | "0" => some .eq
  | "1" => some .gt
  | _ => none

/-- `closerThanTarget.Compare` in containers/addr-maybe-ids-by-distance.go (with `CloserThan` read from its
own source) is the model's `candCompare`, the comparator of the `SSet` operations. -/
theorem SourceTrees.closerThanTargetCompare (target : Id) (l r : Cand) :
    DExp.evalWith (cttCond target l r) cmpRet Gen.treeCloserThanTargetCompare = some (candCompare target l r) := by
  unfold cmpRet
  simp only [Gen.treeCloserThanTargetCompare, DExp.evalWith_ite, DExp.evalWith_ret, cttCond, SourceTrees.closerThan,
    Option.bind_some, candCompare, ← apply_ite some]

/-- Negative check: the results `-1` and `1` exchanged (known atoms). The tree evaluates to the opposite order. -/
def treeCloserThanTargetCompareMut : DExp := DExp.ite "l.CloserThan(r, me.target)" (DExp.ret "1") (DExp.ite "r.CloserThan(l, me.target)" (DExp.ret "-1") (DExp.ret "0"))

theorem SourceTrees.closerThanTargetCompare_mut_wrong (target : Id) (l r : Cand) (h : Dht.closerThan target l r = true) :
    DExp.evalWith (cttCond target l r) cmpRet treeCloserThanTargetCompareMut = some .gt ∧ candCompare target l r = .lt := by
  unfold cmpRet
  simp [treeCloserThanTargetCompareMut, DExp.evalWith_ite, DExp.evalWith_ret, cttCond, SourceTrees.closerThan,
    candCompare, h]

example : ¬ ∀ (target : Id) (l r : Cand),
    DExp.evalWith (cttCond target l r) cmpRet treeCloserThanTargetCompareMut = some (candCompare target l r) := by
  intro h
  have h' := h [0] ⟨some [1], ⟨1, [1, 2, 3, 4], 1⟩⟩ ⟨some [2], ⟨1, [1, 2, 3, 4], 1⟩⟩
  have w := SourceTrees.closerThanTargetCompare_mut_wrong [0] ⟨some [1], ⟨1, [1, 2, 3, 4], 1⟩⟩
    ⟨some [2], ⟨1, [1, 2, 3, 4], 1⟩⟩ (by decide +kernel)
  rw [w.1, w.2] at h'
  exact absurd h' (by simp)

/-- Negative check: the second test negated. Unknown atom: no value whenever the first test fails. -/
example (target : Id) (l r : Cand) (h : closerThan target l r = false) :
    DExp.evalWith (cttCond target l r) cmpRet
      (DExp.ite "l.CloserThan(r, me.target)" (DExp.ret "-1") (DExp.ite "!r.CloserThan(l, me.target)" (DExp.ret "1") (DExp.ret "0"))) = none := by
  simp [DExp.evalWith_ite, cttCond, SourceTrees.closerThan, h]

def lcCond {α : Type} (less : α → α → Bool) (i j : α) : String → Option Bool
  | "me.less(i, j)" => some (less i j)
  | "me.less(j, i)" => some (less j i)
  | _ => none

/-- `lessComparer[K].Compare` in k-nearest-nodes/k-nearest-nodes.go.go is `lessCompare`, for any `less`. -/
theorem SourceTrees.lessComparerCompare {α : Type} (less : α → α → Bool) (i j : α) :
    DExp.evalWith (lcCond less i j) cmpRet Gen.treeLessComparerCompare = some (lessCompare less i j) := by
  unfold cmpRet
  simp only [Gen.treeLessComparerCompare, DExp.evalWith_ite, DExp.evalWith_ret, lcCond, Option.bind_some, lessCompare,
    ← apply_ite some]

/-- `lessCompare` and the model: `candCompare` is `lessCompare` of `closerThan` (both Go comparators have
one shape) … -/
theorem candCompare_eq_lessCompare (target : Id) (l r : Cand) :
    candCompare target l r = lessCompare (closerThan target) l r := rfl

theorem lessCompare_lt {α : Type} (less : α → α → Bool) (i j : α) :
    (lessCompare less i j == .lt) = less i j := by
  simp only [lessCompare]
  cases less i j <;> cases less j i <;> simp

/-- … and the model's deterministic `KNN.insertSorted` places `e` before the first `x` with
`Compare(e, x) < 0` under the strict order `KNN.lessDet` (distance, then address). -/
theorem KNN.insertSorted_cons_lessCompare (target : Id) (x : KElem) (xs : List KElem) (e : KElem) :
    KNN.insertSorted target (x :: xs) e =
      if x.sameKey e then e :: xs
      else if lessCompare (KNN.lessDet target) e x == .lt then e :: (x :: xs).filter (fun y => !y.sameKey e)
      else x :: KNN.insertSorted target xs e := by
  rw [lessCompare_lt]; rfl

/-- Negative check: `else if me.less(i, j)` (operands not exchanged). Unknown atom is not even needed: all
atoms known, and the tree never answers `1`. -/
def treeLessComparerCompareMut : DExp := DExp.ite "me.less(i, j)" (DExp.ret "-1") (DExp.ite "me.less(i, j)" (DExp.ret "1") (DExp.ret "0"))

example :
    DExp.evalWith (lcCond (fun a b : Nat => decide (a < b)) 2 1) cmpRet treeLessComparerCompareMut = some .eq ∧
    lessCompare (fun a b : Nat => decide (a < b)) 2 1 = .gt := by
  constructor <;> decide

/-- Negative check: the first result changed to `-2`: unknown result expression. -/
example {α : Type} (less : α → α → Bool) (i j : α) (h : less i j = true) :
    DExp.evalWith (lcCond less i j) cmpRet
      (DExp.ite "me.less(i, j)" (DExp.ret "-2") (DExp.ite "me.less(j, i)" (DExp.ret "1") (DExp.ret "0"))) = none := by
  simp [DExp.evalWith_ite, DExp.evalWith_ret, lcCond, h, cmpRet]


/-- The extractor skipped no statement in the two comparators (their trees are their whole bodies). -/
theorem SourceTrees.closer_no_skipped_statements :
    Gen.treeCloserThanTargetCompareLets = [] ∧ Gen.treeLessComparerCompareLets = [] := by
  decide

end Dht
