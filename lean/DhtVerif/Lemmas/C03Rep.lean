/- Every queried address was reported. -/
import DhtVerif.Lemmas.TravCore
namespace Dht

/-- Addresses an event reports (same as `reported` of Props/C03, per event). -/
def repOf : TravEv → List Addr
  | .addNodes ns => ns.map (·.addr.strKey)
  | .queryReturn _ r => (r.nodes ++ r.nodes6).map (·.addr.strKey)
  | _ => []

/-- Reply nodes a query goroutine has still to hand to `AddNodes`. -/
def QPhase.pending : QPhase → List Cand
  | .returned r => r.nodes ++ r.nodes6
  | .closestDone r => r.nodes ++ r.nodes6
  | .nodesDone r => r.nodes6
  | _ => []

/-- Every address the lookup knows of (in the frontier, queried, or still to be handed over by a query goroutine) is in
`R`; `Rep.exec` takes for `R` the addresses reported by the events so far (`repOf`). -/
structure Trav.Rep (R : List Addr) (s : Trav) : Prop where
  unq : ∀ n ∈ s.unq, n.addr.strKey ∈ R
  queried : ∀ k ∈ s.queried, k ∈ R
  pend : ∀ e ∈ s.inflight, ∀ n ∈ e.2.pending, n.addr.strKey ∈ R

theorem Trav.Rep.init (R : List Addr) : Trav.Rep R {} :=
  ⟨fun _ h => (List.not_mem_nil h).elim, fun _ h => (List.not_mem_nil h).elim, fun _ h => (List.not_mem_nil h).elim⟩

theorem Trav.Rep.rephase {R : List Addr} {s : Trav} (h : Trav.Rep R s) {a : Addr} {q : QPhase} (p : QPhase)
    (hq : phaseOf s.inflight a = some q) (hp : ∀ n ∈ p.pending, n ∈ q.pending) :
    ∀ e ∈ setPhase s.inflight a p, ∀ n ∈ e.2.pending, n.addr.strKey ∈ R := by
  intro e he n hn
  rcases mem_setPhase he with h1 | rfl
  · exact h.pend e h1 n hn
  · exact h.pend _ (phaseOf_mem hq) n (hp n hn)

theorem Trav.Rep.step {c : TravCfg} {R : List Addr} {s s' : Trav} {e : TravEv} (h : Trav.Rep R s)
    (hR : ∀ x ∈ repOf e, x ∈ R) (hs : Trav.Step c s e s') : Trav.Rep R s' := by
  have hadd : ∀ ns, (∀ n ∈ ns, n.addr.strKey ∈ R) → ∀ n ∈ (s.addNodes c ns).unq, n.addr.strKey ∈ R :=
    fun ns hns n hn => ((Trav.addNodes_addsTo c ns s).mem n hn).elim (hns n) (h.unq n)
  cases hs
  case addNodes ns =>
    have A := Trav.addNodes_addsTo c ns s
    exact ⟨hadd ns (fun n hn => hR _ (List.mem_map_of_mem hn)), A.queried ▸ h.queried, A.inflight ▸ h.pend⟩
  case eval t _ _ _ ht | evalUnlocked t _ _ _ ht =>
    have L := ht ▸ Trav.startLoop_launch c (s.unq.length + 1) s
    refine ⟨fun n hn => h.unq n (L.unqSub.subset hn), fun k hk => ?_, fun e he n hn => ?_⟩
    · rcases L.queriedMem k hk with h2 | ⟨n, hn, rfl⟩
      · exact h.queried k h2
      · exact h.unq n hn
    · rcases L.inflMem e he with h2 | h2
      · exact h.pend e h2 n hn
      · rw [h2] at hn; cases hn
  case queryReturn a r _ =>
    refine ⟨h.unq, h.queried, fun e he n hn => ?_⟩
    rcases mem_setPhase he with h1 | rfl
    · exact h.pend e h1 n hn
    · exact hR _ (List.mem_map_of_mem hn)
  case addClosest a r hp => exact ⟨h.unq, h.queried, h.rephase (.closestDone r) hp (fun _ hn => hn)⟩
  case addReplyNodes a r hp =>
    have A := Trav.addNodes_addsTo c r.nodes s
    exact ⟨hadd _ (fun n hn => h.pend _ (phaseOf_mem hp) n (List.mem_append_left _ hn)), A.queried ▸ h.queried,
      h.rephase (.nodesDone r) hp (fun _ hn => List.mem_append_right _ hn)⟩
  case addReplyNodes6 a r hp =>
    have A := Trav.addNodes_addsTo c r.nodes6 s
    exact ⟨hadd _ (h.pend _ (phaseOf_mem hp)), A.queried ▸ h.queried, h.rephase .nodes6Done hp nofun⟩
  case finish a _ => exact ⟨h.unq, h.queried, fun e he => h.pend e (List.mem_filter.mp he).1⟩
  -- the other events touch neither the frontier nor the queried set nor the goroutines
  all_goals exact ⟨h.unq, h.queried, h.pend⟩

theorem Trav.Rep.exec {c : TravCfg} {evs : List TravEv} {s : Trav} (h : Trav.exec c {} evs = some s) :
    Trav.Rep (evs.flatMap repOf) s :=
  Trav.exec_induct h (Trav.Rep.init _)
    (fun e he _ _ hp hs => hp.step (fun _ hx => List.mem_flatMap.mpr ⟨e, he, hx⟩) hs)

end Dht
