/- What one event of the traversal offers to the closest set (`offeredAt`); each `Trav.Step` changes `closest` by
pushing exactly that. -/
import DhtVerif.Lemmas.TravCore
namespace Dht

/-- What one event offers to the closest set (the `here` of `offered` in Props/C02). -/
def offeredAt (c : TravCfg) (s : Trav) : TravEv → List KElem
  | .addClosest a =>
    match phaseOf s.inflight a with
    | some (.returned r) => r.offer c a
    | _ => []
  | _ => []

theorem offeredAt_ok (c : TravCfg) (s : Trav) (e : TravEv) :
    ∀ m ∈ offeredAt c s e, c.nodeFilter ⟨some m.id, m.addr⟩ = true ∧ c.dataFilter m.data = true := by
  -- case1: the `addClosest` of a goroutine that has returned; nothing is offered otherwise
  fun_cases offeredAt c s e
  case case1 a r _ =>
    fun_cases QResult.offer c a r <;> intro m hm
    · cases List.mem_singleton.mp hm
      exact Bool.and_eq_true_iff.mp ‹_›
    all_goals cases hm
  all_goals nofun

theorem Trav.Step.closest {c : TravCfg} {s s' : Trav} {e : TravEv} (hs : Trav.Step c s e s') :
    s'.closest = (offeredAt c s e).foldl (KNN.push c.target c.k) s.closest := by
  cases hs
  case addClosest a r hp => simp only [offeredAt, hp]; exact Trav.addClosest_closest c s a r
  case addNodes | addReplyNodes | addReplyNodes6 => exact (Trav.addNodes_addsTo c _ s).closest
  case eval t _ _ _ ht | evalUnlocked t _ _ _ ht => exact (ht ▸ Trav.startLoop_launch c _ s).closest
  all_goals rfl

/-- The responders offered to the closest set so far: for every `addClosest`
event that was applied, the responder (with the queried address and the data it
supplied), provided it passed both filters. In history order. -/
def offered (c : TravCfg) : Trav → List TravEv → List KElem
  | _, [] => []
  | s, e :: es =>
    match s.step c e with
    | none => []
    | some s' =>
      let here : List KElem := match e with
        | .addClosest a =>
          match phaseOf s.inflight a with
          | some (.returned r) =>
            match r.responder with
            | some id => if c.nodeFilter ⟨some id, a⟩ && c.dataFilter r.data then [⟨id, a, r.data⟩] else []
            | none => []
          | _ => []
        | _ => []
      here ++ offered c s' es

theorem offered_cons (c : TravCfg) (s : Trav) (e : TravEv) (es : List TravEv) :
    offered c s (e :: es) =
      match s.step c e with
      | none => []
      | some s' => offeredAt c s e ++ offered c s' es := by
  cases e <;> rfl

theorem Trav.exec_offered_induct {c : TravCfg} {P : List KElem → Trav → Prop} {evs : List TravEv} {s0 s : Trav}
    {hist : List KElem} (h : Trav.exec c s0 evs = some s) (h0 : P hist s0)
    (hstep : ∀ e ∈ evs, ∀ hist s s', P hist s → Trav.Step c s e s' → P (hist ++ offeredAt c s e) s') :
    P (hist ++ offered c s0 evs) s := by
  induction evs generalizing s0 hist with
  | nil => cases h; simpa [offered] using h0
  | cons e es ih =>
    obtain ⟨s1, h1, h2⟩ := Trav.exec_cons.mp h
    have := ih h2 (hstep e List.mem_cons_self hist s0 s1 h0 (.of_step h1))
      (fun e' he' => hstep e' (List.mem_cons_of_mem _ he'))
    rw [offered_cons, h1]
    simpa [List.append_assoc] using this

theorem Trav.exec_reach {c : TravCfg} {evs : List TravEv} {s0 s : Trav} {hist : List KElem}
    (hr : KNN.Reach c.target c.k hist s0.closest) (h : Trav.exec c s0 evs = some s) :
    KNN.Reach c.target c.k (hist ++ offered c s0 evs) s.closest :=
  Trav.exec_offered_induct (P := fun hist s => KNN.Reach c.target c.k hist s.closest) h hr
    (fun _ _ _ _ _ hr hs => hs.closest ▸ hr.pushes_model _)

end Dht
