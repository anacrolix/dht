/- Bits of an ID: `getBit` is `Nat.testBit` of `toNat` counted from the other end; `setBit`; the bucket index as the
position of the top bit of the numeric xor (`bucketIndex_spec`); `randomIdInBucket` bit by bit. -/
import DhtVerif.Lemmas.C18Id
namespace Dht
namespace Id

theorem toNat_toUInt8_of_lt (k : Nat) (hk : k < 8) : k.toUInt8.toNat = k := by
  simp [Nat.toUInt8]; omega

theorem shift_and_one (x : UInt8) (k : Nat) (hk : k < 8) :
    ((x >>> k.toUInt8) &&& 1 == 1) = x.toNat.testBit k := by
  rw [Bool.eq_iff_iff, beq_iff_eq, ← UInt8.toNat_inj, UInt8.toNat_and, UInt8.toNat_shiftRight,
    toNat_toUInt8_of_lt k hk, Nat.mod_eq_of_lt hk]
  simp [Nat.testBit, Nat.and_comm]

theorem two_pow_lt_256 (k : Nat) (hk : k < 8) : 2 ^ k < 2 ^ 8 :=
  Nat.pow_lt_pow_right (by omega) hk

theorem toNat_one_shiftLeft (k : Nat) (hk : k < 8) :
    ((1 : UInt8) <<< k.toUInt8).toNat = 2 ^ k := by
  rw [UInt8.toNat_shiftLeft, toNat_toUInt8_of_lt k hk, Nat.mod_eq_of_lt hk, UInt8.toNat_one,
    Nat.one_shiftLeft, Nat.mod_eq_of_lt (two_pow_lt_256 k hk)]

theorem testBit_setByte (x : UInt8) (k m : Nat) (v : Bool) (hk : k < 8) (hm : m < 8) :
    (((x &&& ~~~((1 : UInt8) <<< k.toUInt8)) |||
        (if v then (1 : UInt8) <<< k.toUInt8 else 0)).toNat).testBit m =
      if m = k then v else x.toNat.testBit m := by
  have h1 := toNat_one_shiftLeft k hk
  have h2 : (~~~((1 : UInt8) <<< k.toUInt8)).toNat = 2 ^ 8 - (2 ^ k + 1) := by
    rw [UInt8.toNat_not, h1]; simp [UInt8.size]
  have h3 : (if v then (1 : UInt8) <<< k.toUInt8 else 0).toNat = if v then 2 ^ k else 0 := by
    cases v <;> simp [h1]
  rw [UInt8.toNat_or, UInt8.toNat_and, Nat.testBit_or, Nat.testBit_and, h2, h3,
    Nat.testBit_two_pow_sub_succ (two_pow_lt_256 k hk), Nat.testBit_two_pow]
  by_cases hmk : m = k
  · subst hmk
    cases v <;> simp
  · have hkm : ¬ k = m := fun e => hmk e.symm
    cases v <;> simp [hmk, hkm, hm]

theorem getBit_eq (a : Id) (i : Nat) :
    a.getBit i = (a.getD (i / 8) 0).toNat.testBit (7 - i % 8) :=
  shift_and_one _ _ (Nat.sub_lt_succ 7 _)

theorem getBit_cons_lt (x : UInt8) (xs : Id) (i : Nat) (hi : i < 8) :
    getBit (x :: xs) i = x.toNat.testBit (7 - i) := by
  rw [getBit_eq, Nat.div_eq_of_lt hi, Nat.mod_eq_of_lt hi]; rfl

theorem getBit_cons_add (x : UInt8) (xs : Id) (i : Nat) :
    getBit (x :: xs) (i + 8) = getBit xs i := by
  rw [getBit_eq, getBit_eq, Nat.add_div_right i (by decide), Nat.add_mod_right]; rfl

theorem getBit_eq_testBit (a : Id) (i j : Nat) (h : i + j + 1 = 8 * a.length) :
    a.getBit i = a.toNat.testBit j := by
  induction a generalizing i with
  | nil => cases h
  | cons x xs ih =>
    rw [testBit_toNat_cons]
    rw [List.length_cons, Nat.mul_succ] at h
    by_cases h8 : i < 8
    · have hj : j = 8 * xs.length + (7 - i) := by omega
      rw [hj, if_neg (Nat.not_lt.mpr (Nat.le_add_right _ _)), Nat.add_sub_cancel_left, getBit_cons_lt _ _ _ h8]
    · obtain ⟨i, rfl⟩ := Nat.exists_eq_add_of_le' (Nat.le_of_not_lt h8)
      have h' : i + j + 1 = 8 * xs.length := by omega
      rw [if_pos (h' ▸ Nat.lt_succ_of_le (Nat.le_add_left j i)), getBit_cons_add, ih i h']

theorem getBit_eq_testBit20 (a : Id) (ha : a.length = 20) (i j : Nat) (h : i + j + 1 = 160) :
    a.getBit i = a.toNat.testBit j :=
  getBit_eq_testBit a i j (ha ▸ h)

@[simp] theorem length_setBit (a : Id) (i : Nat) (v : Bool) : (a.setBit i v).length = a.length := by
  simp [setBit]

theorem getBit_setBit (a : Id) (i j : Nat) (v : Bool) (hi : i < 8 * a.length) :
    (a.setBit i v).getBit j = if j = i then v else a.getBit j := by
  simp only [getBit_eq, setBit, List.getD_eq_getElem?_getD, List.getElem?_set]
  by_cases hq : i / 8 = j / 8
  · have hji : 7 - j % 8 = 7 - i % 8 ↔ j = i := by
      have hj := Nat.le_of_lt_succ (Nat.mod_lt j (show 0 < 8 by decide))
      have hi := Nat.le_of_lt_succ (Nat.mod_lt i (show 0 < 8 by decide))
      refine ⟨fun e => ?_, fun e => e ▸ rfl⟩
      rw [← Nat.div_add_mod j 8, ← Nat.div_add_mod i 8, hq, ← Nat.sub_sub_self hj, e, Nat.sub_sub_self hi]
    rw [if_pos hq, if_pos (Nat.div_lt_of_lt_mul hi), Option.getD_some,
      testBit_setByte _ _ _ _ (Nat.sub_lt_succ 7 _) (Nat.sub_lt_succ 7 _), ← hq]
    simp only [hji]
  · rw [if_neg hq, if_neg (fun e : j = i => hq (e ▸ rfl))]

theorem length_foldl_setBit (f : Nat → Bool) (l : List Nat) (a : Id) :
    (l.foldl (fun id i => id.setBit i (f i)) a).length = a.length := by
  induction l generalizing a with
  | nil => rfl
  | cons i l ih => rw [List.foldl_cons, ih, length_setBit]

theorem getBit_foldl_setBit (f : Nat → Bool) (a : Id) (n : Nat) (hn : n ≤ 8 * a.length) (j : Nat) :
    ((List.range n).foldl (fun id i => id.setBit i (f i)) a).getBit j = if j < n then f j else a.getBit j := by
  induction n with
  | zero => rfl
  | succ n ih =>
    rw [List.range_succ, List.foldl_append, List.foldl_cons, List.foldl_nil,
      getBit_setBit _ _ _ _ (by rwa [length_foldl_setBit]), ih (Nat.le_of_succ_le hn)]
    rcases Nat.lt_trichotomy j n with h | rfl | h
    · rw [if_neg (Nat.ne_of_lt h), if_pos h, if_pos (Nat.lt_succ_of_lt h)]
    · rw [if_pos rfl, if_pos (Nat.lt_succ_self _)]
    · rw [if_neg (Nat.ne_of_gt h), if_neg (Nat.lt_asymm h), if_neg (Nat.not_lt.mpr h)]

end Id

theorem Nat.testBit_xor_log2 {a b : Nat} (h : a ≠ b) :
    a.testBit (a ^^^ b).log2 ≠ b.testBit (a ^^^ b).log2 ∧
      ∀ k, (a ^^^ b).log2 < k → a.testBit k = b.testBit k := by
  have h0 : a ^^^ b ≠ 0 := mt Nat.xor_eq_zero_iff.mp h
  constructor
  · have := Nat.testBit_log2 h0
    rw [Nat.testBit_xor] at this
    intro e; simp [e] at this
  · intro k hk
    have : (a ^^^ b).testBit k = false :=
      Nat.testBit_lt_two_pow (Nat.lt_of_lt_of_le Nat.lt_log2_self (Nat.pow_le_pow_right (by omega) hk))
    rw [Nat.testBit_xor] at this
    simpa using this

/-- The bucket of `id` is the first bit in which it differs from the root: with `L` the top bit of the numeric
xor, that is bit `159 - L` counted from the front. -/
theorem bucketIndex_spec (root id : Id)
    (hr : root.length = 20) (hi : id.length = 20) (hne : id ≠ root) :
    ∃ i, bucketIndex root id = some i ∧ i < 160 ∧
      (∀ j, j < i → id.getBit j = root.getBit j) ∧ id.getBit i ≠ root.getBit i := by
  have hlen : id.length = root.length := hi.trans hr.symm
  have hx : (Id.xor root id).toNat = id.toNat ^^^ root.toNat := by
    rw [Id.toNat_xor root id hlen.symm, Nat.xor_comm]
  have hnat : id.toNat ≠ root.toNat := fun e => hne (Id.toNat_injective id root hlen e)
  obtain ⟨htop, hhigh⟩ := Nat.testBit_xor_log2 hnat
  have hn0 : id.toNat ^^^ root.toNat ≠ 0 := mt Nat.xor_eq_zero_iff.mp hnat
  have hlog : (id.toNat ^^^ root.toNat).log2 < 160 := by
    rw [Nat.log2_lt hn0, ← hx]
    have := Id.toNat_lt_two_pow (Id.xor root id)
    rwa [Id.xor_length, hr, hi] at this
  have hb : bucketIndex root id = some (160 - ((id.toNat ^^^ root.toNat).log2 + 1)) := by
    simp only [bucketIndex, Id.bitLen, if_neg hne, hx, if_neg hn0]
  generalize (id.toNat ^^^ root.toNat).log2 = L at *
  obtain ⟨i, hiL⟩ : ∃ i, i + (L + 1) = 160 := ⟨160 - (L + 1), Nat.sub_add_cancel hlog⟩
  rw [← hiL, Nat.add_sub_cancel] at hb
  refine ⟨i, hb, hiL ▸ Nat.lt_succ_of_le (Nat.le_add_right i L), fun j hj => ?_, ?_⟩
  · obtain ⟨d, rfl⟩ := Nat.exists_eq_add_of_lt hj
    have hk : j + (L + d + 1) + 1 = 160 := by omega
    rw [Id.getBit_eq_testBit20 id hi j _ hk, Id.getBit_eq_testBit20 root hr j _ hk]
    exact hhigh _ (Nat.lt_succ_of_le (Nat.le_add_right L d))
  · rw [Id.getBit_eq_testBit20 id hi i L hiL, Id.getBit_eq_testBit20 root hr i L hiL]
    exact htop

theorem bucketIndex_eq_none_iff (root id : Id) : bucketIndex root id = none ↔ id = root := by
  unfold bucketIndex
  by_cases h : id = root <;> simp [h]

theorem bucketIndex_lt (root id : Id) (i : Nat) (hr : root.length = 20) (hi : id.length = 20)
    (h : bucketIndex root id = some i) : i < 160 := by
  have hne : id ≠ root := fun he => by rw [(bucketIndex_eq_none_iff root id).mpr he] at h; cases h
  obtain ⟨i', h', hlt, _⟩ := bucketIndex_spec root id hr hi hne
  cases h.symm.trans h'
  exact hlt

theorem bucketIndex_of_prefix (root id : Id) (i : Nat)
    (hr : root.length = 20) (hi : id.length = 20)
    (hpre : ∀ j, j < i → id.getBit j = root.getBit j) (hdiff : id.getBit i ≠ root.getBit i) :
    bucketIndex root id = some i := by
  have hne : id ≠ root := by intro e; subst e; exact hdiff rfl
  obtain ⟨i', hb, _, hpre', hdiff'⟩ := bucketIndex_spec root id hr hi hne
  rw [hb]
  congr 1
  rcases Nat.lt_trichotomy i' i with h | h | h
  · exact absurd (hpre i' h) hdiff'
  · exact h
  · exact absurd (hpre' i h) hdiff

theorem getBit_randomIdInBucket (rnd root : Id) (i : Nat) (hi : i < 8 * rnd.length) (j : Nat) :
    (randomIdInBucket rnd root i).getBit j =
      if j = i then !root.getBit i else if j < i then root.getBit j else rnd.getBit j := by
  rw [randomIdInBucket, Id.getBit_setBit _ _ _ _ (by rwa [Id.length_foldl_setBit]),
    Id.getBit_foldl_setBit _ _ _ (Nat.le_of_lt hi)]

theorem length_randomIdInBucket (rnd root : Id) (i : Nat) : (randomIdInBucket rnd root i).length = rnd.length := by
  rw [randomIdInBucket, Id.length_setBit, Id.length_foldl_setBit]

end Dht
