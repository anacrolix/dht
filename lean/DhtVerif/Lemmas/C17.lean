/- Merging bytes under masks, when `crcIP` is defined, and `secureNodeId` on a 20-byte ID. -/
import DhtVerif.Model.Security
namespace Dht
namespace C17

theorem u8_merge (c b m n : UInt8) (h : n &&& m = 0) : ((c &&& m) ||| (b &&& n)) &&& m = c &&& m := by
  have h' := congrArg UInt8.toBitVec h
  apply UInt8.eq_of_toBitVec_eq
  simp only [UInt8.toBitVec_and, UInt8.toBitVec_or] at h' ⊢
  rw [BitVec.and_or_distrib_right, BitVec.and_assoc, BitVec.and_self, BitVec.and_assoc, h']
  simp

theorem u8_merge_hi (c b : UInt8) : ((c &&& 0xf8) ||| (b &&& 7)) &&& 0xf8 = c &&& 0xf8 :=
  u8_merge c b 0xf8 7 (by decide)

theorem u8_merge_lo (c b : UInt8) : ((c &&& 0xf8) ||| (b &&& 7)) &&& 7 = b &&& 7 := by
  rw [UInt8.or_comm]; exact u8_merge b c 7 0xf8 (by decide)

theorem u8_and_255 (x : UInt8) : x &&& 255 = x := UInt8.and_neg_one

theorem list20_shape (id : List UInt8) (hid : id.length = 20) :
    ∃ a0 a1 a2 rest, id = a0 :: a1 :: a2 :: rest ∧ rest.length = 17 := by
  match id, hid with
  | a0 :: a1 :: a2 :: rest, h => exact ⟨a0, a1, a2, rest, rfl, by simpa using h⟩

theorem maskV4 : Gen.v4Mask.map Nat.toUInt8 = [3, 15, 63, 255] := by decide
theorem maskV6 : Gen.v6Mask.map Nat.toUInt8 = [1, 3, 7, 15, 31, 63, 127, 255] := by decide

theorem to4_length (ip v4 : List UInt8) (h : to4 ip = some v4) : v4.length = 4 := by
  revert h
  fun_cases to4 ip <;> intro h <;> cases h
  · assumption -- four bytes, as they are
  · have : ip.length = 16 := of_decide_eq_true (Bool.and_eq_true_iff.mp ‹_›).1
    rw [List.length_drop, this] -- the last four of sixteen

theorem to4_of_len4 (ip : List UInt8) (h : ip.length = 4) : to4 ip = some ip := by
  simp [to4, h]

theorem crcIP_eq_none_iff (ip : List UInt8) (r : UInt8) :
    crcIP ip r = none ↔ to4 ip = none ∧ ip.length < 8 := by
  unfold crcIP
  cases h4 : to4 ip with
  | some v4 =>
    have hl := to4_length ip v4 h4
    simp only [maskForIP, to4_of_len4 v4 hl, maskV4]
    match v4, hl with
    | [a, b, c, d], _ => simp
  | none =>
    simp only [maskForIP, h4, maskV6]
    by_cases h : ip.length < 8
    · simp [h]
    · match ip, h with
      | a :: ip, _ => simp; omega

theorem crcIP_total (ip : List UInt8) (r : UInt8) (h : validIp ip = true) : ∃ c, crcIP ip r = some c := by
  apply Option.ne_none_iff_exists'.mp
  rw [Ne, crcIP_eq_none_iff]
  rintro ⟨h4, h8⟩
  simp only [validIp, Bool.or_eq_true, beq_iff_eq] at h
  rcases h with h | h
  · rw [to4_of_len4 ip h] at h4; cases h4
  · omega

theorem getD19_shape (a0 a1 a2 : UInt8) (rest : List UInt8) :
    (a0 :: a1 :: a2 :: rest).getD 19 0 = rest.getD 16 0 := rfl

theorem secure_shape (a0 a1 a2 : UInt8) (rest : List UInt8) (ip : List UInt8) :
    secureNodeId (a0 :: a1 :: a2 :: rest) ip =
      (crcIP ip (rest.getD 16 0)).map (fun crc =>
        byte crc 24 :: byte crc 16 :: ((byte crc 8 &&& 0xf8) ||| (a2 &&& 7)) :: rest) := by
  unfold secureNodeId
  rw [getD19_shape]
  cases crcIP ip (rest.getD 16 0) <;> rfl

theorem secure_inv (id ip id' : List UInt8) (hid : id.length = 20)
    (h : secureNodeId id ip = some id') :
    ∃ a0 a1 a2 rest c, id = a0 :: a1 :: a2 :: rest ∧ rest.length = 17 ∧
      crcIP ip (rest.getD 16 0) = some c ∧
      id' = byte c 24 :: byte c 16 :: ((byte c 8 &&& 0xf8) ||| (a2 &&& 7)) :: rest := by
  obtain ⟨a0, a1, a2, rest, rfl, hr⟩ := list20_shape id hid
  rw [secure_shape] at h
  obtain ⟨c, hc, rfl⟩ := Option.map_eq_some_iff.mp h
  exact ⟨a0, a1, a2, rest, c, rfl, hr, hc, rfl⟩

end C17
end Dht
