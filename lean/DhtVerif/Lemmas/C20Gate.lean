/- C20, the write gate in the finite positive-rate regime: what one gate event does (`GSt.Shape`), and the
invariant that a gate history accounts for every grant while its bucket runs a bucket history of Lemmas/C20. -/
import DhtVerif.Lemmas.C20
namespace Dht

theorem sendGate_allow {b : Bucket} {now : Nat} {m : Option Nat} (hinf : b.inf = false) (hp : 0 < b.p) (hl : b.last ≤ now) :
    sendGate false false true false m b now =
      if 1 ≤ b.burst ∧ 0 ≤ b.tokensAt now - (b.unit : Int) then
        (.wrote, { b with tokens := b.tokensAt now - (b.unit : Int), last := now })
      else (.errRateLimited, b) := by
  by_cases h : 1 ≤ b.burst ∧ 0 ≤ b.tokensAt now - (b.unit : Int)
  · simp only [sendGate, Bucket.allow_ok hinf hp h, if_pos h]; rfl
  · simp only [sendGate, Bucket.allow_no hinf hp hl h, if_neg h]; rfl

theorem sendGate_wait {b : Bucket} {now : Nat} (hinf : b.inf = false) (hp : 0 < b.p) :
    sendGate false false true true none b now =
      if 1 ≤ b.burst then
        (if now + ceilDiv (b.deficit now) b.p ≤ now then Outcome.wrote else .waitsUntil (now + ceilDiv (b.deficit now) b.p),
         { b with tokens := b.tokensAt now - (b.unit : Int), last := now })
      else (.errWait, b) := by
  by_cases h : 1 ≤ b.burst
  · have h' : ¬ b.burst < 1 := by omega
    simp [sendGate, Bucket.waitReserve, hinf, h', Bucket.reserve_ok hinf hp h, h]
  · have h' : b.burst < 1 := by omega
    simp [sendGate, Bucket.waitReserve, hinf, h', h]

theorem BHist.step_give_facts (h : BHist) :
    (h.step .giveBack).grants = h.grants ∧ (h.step .giveBack).now = h.now ∧
    (h.step .giveBack).returned ≤ h.returned + 1 ∧ h.returned ≤ (h.step .giveBack).returned := by
  simp only [BHist.step]
  split <;> simp

/-- What one gate event does, in the finite positive regime. A granted token (bucket then `b'`) is
the one `reserve` would have granted. -/
inductive GSt.Shape (s : GSt) : GSt → Prop where
  | tick (dt : Nat) : Shape s { s with h := s.h.step (.adv dt) }
  | same : Shape s s
  | unrated : Shape s { s with out := ⟨s.h.now, false, 0⟩ :: s.out }
  /-- a token was granted and is usable now -/
  | send (b' : Bucket) (wok : Bool) (he : GSt.granted s.h b' = s.h.step .reserve)
      (ha : s.h.b.actScaled s.h.now ≤ s.h.b.p * s.h.now) :
      Shape s (GSt.ratedWrite s (GSt.granted s.h b') (s.h.b.actScaled s.h.now) wok)
  /-- a token was reserved and will be usable at `t` -/
  | enqueue (b' : Bucket) (t : Nat) (wok : Bool) (he : GSt.granted s.h b' = s.h.step .reserve)
      (ha : s.h.b.actScaled s.h.now ≤ s.h.b.p * t) :
      Shape s { s with h := GSt.granted s.h b', waiting := s.waiting ++ [⟨t, s.h.b.actScaled s.h.now, wok⟩] }
  | wake (i : Nat) (w : Waiter) (hw : s.waiting[i]? = some w) (hle : w.notBefore ≤ s.h.now) :
      Shape s (GSt.ratedWrite { s with waiting := s.waiting.eraseIdx i } s.h w.act w.wok)

theorem GSt.step_shape (s : GSt) (e : GEv) (hinf : s.h.b.inf = false) (hp : 0 < s.h.b.p) (hl : s.h.b.last ≤ s.h.now) :
    GSt.Shape s (s.step e) := by
  cases e with
  | tick dt => exact .tick dt
  | wake i =>
    simp only [GSt.step]
    split
    · rename_i w hw
      split
      · rename_i hle; exact .wake i w hw hle
      · exact .same
    · exact .same
  | call c =>
    obtain ⟨closed, blocked, rate, wait, wok⟩ := c
    cases closed
    case true => simp only [GSt.step, sendGate, if_true]; exact .same
    cases blocked
    case true => simp [GSt.step, sendGate]; exact .same
    cases rate
    case false =>
      cases wok
      · simp [GSt.step, sendGate]; exact .same
      · simp [GSt.step, sendGate]; exact .unrated
    cases wait
    case false =>
      simp only [GSt.step]
      rw [sendGate_allow hinf hp hl]
      by_cases h : 1 ≤ s.h.b.burst ∧ 0 ≤ s.h.b.tokensAt s.h.now - (s.h.b.unit : Int)
      · rw [if_pos h]
        refine .send _ wok (BHist.step_reserve_ok s.h hinf hp h.1).symm ?_
        rw [Bucket.actScaled, Bucket.deficit_zero_of_allow _ _ h.2]; exact Nat.le_refl _
      · rw [if_neg h]
        exact .same
    case true =>
      simp only [GSt.step]
      rw [sendGate_wait hinf hp]
      by_cases h : 1 ≤ s.h.b.burst
      · rw [if_pos h]
        have he := (BHist.step_reserve_ok s.h hinf hp h).symm
        have ha := s.h.b.actScaled_le_slot s.h.now hp
        by_cases ht : s.h.now + ceilDiv (s.h.b.deficit s.h.now) s.h.b.p ≤ s.h.now
        · rw [if_pos ht]
          exact .send _ wok he (Nat.le_trans ha (Nat.mul_le_mul_left _ ht))
        · rw [if_neg ht]
          exact .enqueue _ _ wok he ha
      · rw [if_neg h]
        exact .same

theorem GSt.Shape.sim {s s' : GSt} (sh : GSt.Shape s s') : ∃ evs : List BEv, s'.h = s.h.run evs := by
  cases sh with
  | tick dt => exact ⟨[.adv dt], rfl⟩
  | same => exact ⟨[], rfl⟩
  | unrated => exact ⟨[], rfl⟩
  | send b' wok he _ =>
    cases wok
    · exact ⟨[.reserve, .giveBack], congrArg (·.step .giveBack) he⟩
    · exact ⟨[.reserve], he⟩
  | enqueue b' t wok he _ => exact ⟨[.reserve], he⟩
  | wake i w _ _ =>
    cases hw : w.wok
    · exact ⟨[.giveBack], by simp [GSt.ratedWrite, BHist.run]⟩
    · exact ⟨[], by simp [GSt.ratedWrite, BHist.run]⟩

/-- Every grant is accounted for exactly once: consumed by a rated datagram, held by a waiter,
or lost to a failed socket write. -/
structure GSt.Acct (p : Nat) (s : GSt) : Prop where
  perm : s.h.grants.Perm (s.ratedOut.map (·.act) ++ s.waiting.map (·.act) ++ s.failed)
  out_ok : ∀ d ∈ s.ratedOut, d.act ≤ p * d.time ∧ d.time ≤ s.h.now
  failed_ok : ∀ a ∈ s.failed, a ≤ p * s.h.now
  wait_ok : ∀ w ∈ s.waiting, w.act ≤ p * w.notBefore
  ret_le : s.h.returned ≤ s.failed.length

/-- the socket write of a rated send whose grant `act` is not yet on the books of `s0` -/
theorem GSt.Acct.ofRatedWrite {p : Nat} (s0 : GSt) (h' : BHist) (act : Nat) (wok : Bool)
    (hperm : h'.grants.Perm (act :: (s0.ratedOut.map (·.act) ++ s0.waiting.map (·.act) ++ s0.failed)))
    (hout : ∀ d ∈ s0.ratedOut, d.act ≤ p * d.time ∧ d.time ≤ h'.now)
    (hfail : ∀ a ∈ s0.failed, a ≤ p * h'.now)
    (hwait : ∀ w ∈ s0.waiting, w.act ≤ p * w.notBefore)
    (hret : h'.returned ≤ s0.failed.length)
    (ha : act ≤ p * h'.now) :
    (GSt.ratedWrite s0 h' act wok).Acct p := by
  cases wok
  · -- the socket write fails: give the token back, remember the lost grant
    obtain ⟨hg, hn, hr, _⟩ := BHist.step_give_facts h'
    refine ⟨?_, ?_, ?_, hwait, ?_⟩
    · show (h'.step .giveBack).grants.Perm (s0.ratedOut.map (·.act) ++ s0.waiting.map (·.act) ++ act :: s0.failed)
      rw [hg]
      exact hperm.trans List.perm_middle.symm
    · show ∀ d ∈ s0.ratedOut, d.act ≤ p * d.time ∧ d.time ≤ (h'.step .giveBack).now
      rw [hn]; exact hout
    · show ∀ a ∈ act :: s0.failed, a ≤ p * (h'.step .giveBack).now
      rw [hn]; exact List.forall_mem_cons.mpr ⟨ha, hfail⟩
    · exact Nat.le_trans hr (Nat.succ_le_succ hret)
  · exact ⟨hperm, List.forall_mem_cons.mpr ⟨⟨ha, Nat.le_refl _⟩, hout⟩, hfail, hwait, hret⟩

theorem GSt.Acct.shape {p : Nat} {s s' : GSt} (hpe : s.h.b.p = p) (i : s.Acct p)
    (sh : GSt.Shape s s') : s'.Acct p := by
  obtain ⟨iperm, iout, ifail, iwait, iret⟩ := i
  cases sh with
  | tick dt =>
    have hm : p * s.h.now ≤ p * (s.h.now + dt) := Nat.mul_le_mul_left _ (Nat.le_add_right _ _)
    exact ⟨iperm, fun d hd => ⟨(iout d hd).1, Nat.le_trans (iout d hd).2 (Nat.le_add_right _ _)⟩,
      fun a ha => Nat.le_trans (ifail a ha) hm, iwait, iret⟩
  | same => exact ⟨iperm, iout, ifail, iwait, iret⟩
  | unrated => exact ⟨iperm, iout, ifail, iwait, iret⟩
  | send b' wok _ ha =>
    exact .ofRatedWrite s _ _ wok (iperm.cons _) iout ifail iwait iret (hpe ▸ ha)
  | enqueue b' t wok _ ha =>
    refine ⟨?_, iout, ifail, List.forall_mem_append.mpr ⟨iwait, fun w' hw' => ?_⟩, iret⟩
    · show (s.h.b.actScaled s.h.now :: s.h.grants).Perm
        (s.ratedOut.map (·.act) ++ (s.waiting ++ [(⟨t, s.h.b.actScaled s.h.now, wok⟩ : Waiter)]).map Waiter.act ++ s.failed)
      rw [List.map_append, ← List.append_assoc, List.append_assoc _ _ s.failed]
      exact (iperm.cons _).trans List.perm_middle.symm
    · rw [List.mem_singleton.mp hw']; exact hpe ▸ ha
  | wake i w' hw hle =>
    refine .ofRatedWrite { s with waiting := s.waiting.eraseIdx i } s.h w'.act w'.wok ?_ iout ifail
      (fun w'' hw'' => iwait w'' (List.mem_of_mem_eraseIdx hw'')) iret
      (Nat.le_trans (iwait w' (List.mem_of_getElem? hw)) (Nat.mul_le_mul_left _ hle))
    -- the waiter's grant moves to the front
    have h1 : (s.waiting.map (·.act)).Perm (w'.act :: (s.waiting.eraseIdx i).map (·.act)) :=
      (eraseIdx_perm s.waiting i w' hw).map _
    exact iperm.trans (((h1.append_left _).trans List.perm_middle).append_right s.failed)

theorem GSt.run_cons (s : GSt) (e : GEv) (h : List GEv) : s.run (e :: h) = (s.step e).run h := rfl

/-- Along every gate history from a fresh limiter: the bucket stays in the regime of the
theorems, every grant is accounted for, and the bucket's own history is one of `BHist`. -/
structure GSt.Inv (p q burst t0 : Nat) (s : GSt) : Prop where
  wf : s.h.WF p q burst t0
  acct : s.Acct p
  sim : ∃ bh : List BEv, s.h = (BHist.init p q burst t0).run bh

theorem GSt.Inv.init (p q burst t0 : Nat) : (GSt.init p q burst t0).Inv p q burst t0 :=
  ⟨BHist.WF.init p q burst t0,
   ⟨List.Perm.refl _, nofun, nofun, nofun, Nat.le_refl _⟩,
   ⟨[], rfl⟩⟩

theorem GSt.Inv.step {p q burst t0 : Nat} (hp : 0 < p) {s : GSt} (i : s.Inv p q burst t0) (e : GEv) :
    (s.step e).Inv p q burst t0 := by
  have sh := GSt.step_shape s e i.wf.ninf (i.wf.hp ▸ hp) i.wf.last_le
  obtain ⟨evs, hev⟩ := sh.sim
  obtain ⟨bh, hbh⟩ := i.sim
  refine ⟨?_, GSt.Acct.shape i.wf.hp i.acct sh, ⟨bh ++ evs, ?_⟩⟩
  · rw [hev]; exact BHist.WF.run hp evs i.wf
  · rw [hev, hbh, BHist.run_append]

theorem GSt.Inv.run {p q burst t0 : Nat} (hp : 0 < p) (h : List GEv) :
    ∀ {s : GSt}, s.Inv p q burst t0 → (s.run h).Inv p q burst t0 := by
  induction h with
  | nil => intro s i; exact i
  | cons e h ih => intro s i; exact ih (i.step hp e)

end Dht
