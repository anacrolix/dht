/-
C11 — announced peers come back from get_peers, and only those, per BEP 5/32 (server model).
-/
import DhtVerif.Model.Server
import DhtVerif.Lemmas.C11
namespace Dht

def isAnnounce (m : QMsg) : Prop := m.y = str "q" ∧ m.q = str "announce_peer"

/-- An accepted announce (valid token; node not passive, hook not vetoing)
stores exactly (infohash, source IP, announced port) and is answered. -/
theorem C11.accepted_announce_stores (c : SrvCfg) (mk : TokenFn) (s s' : Srv) (src : NAddr) (m : QMsg) (a : QArgs)
    (env : Env) (outs : List Out) (effs : List Effect)
    (hm : isAnnounce m) (ha : m.a = some a) (hps : c.hasPeerStore = true) (hpass : c.passive = false)
    (hhook : c.hasHook = false ∨ env.hookPropagate = true) (hcl : s.closed = false)
    (htok : validToken c mk s.ts.now src.ip a.token = true)
    (h : processMsg c mk s src m env = some (s', outs, effs)) :
    ⟨a.infoHash, src.ip, announcedPort src a⟩ ∈ s'.peers ∧ outs.length = 1 := by
  obtain ⟨tbl', rfl, ho, he⟩ := processMsg_active hm.1 hpass hhook hcl h
  rw [dispatch_announce_peer hm.2 ha, withTable_now, if_pos htok] at ho he
  subst ho he
  simp only [announceEffs, hps, if_true]
  rw [applyEffects_append]
  exact ⟨by simp [applyEffects], rfl⟩

/-- After it, `get_peers` for that infohash offers that endpoint to the
family filter, until a later announce from the same IP bytes replaces it:
any later announce for the same infohash from *other* IP bytes, and any
other message, leaves the entry in place. -/
theorem C11.entry_persists (c : SrvCfg) (mk : TokenFn) (s s' : Srv) (src : NAddr) (m : QMsg)
    (env : Env) (outs : List Out) (effs : List Effect) (e : PeerEntry) (he : e ∈ s.peers)
    (hother : ∀ a, m.a = some a → ¬ (isAnnounce m ∧ a.infoHash = e.ih ∧ src.ip = e.ip))
    (h : processMsg c mk s src m env = some (s', outs, effs)) : e ∈ s'.peers := by
  obtain ⟨hp, hadd⟩ := processMsg_peers h
  rw [hp]
  apply mem_applyEffects_of_mem he
  rintro e' he' ⟨h1, h2⟩
  obtain ⟨hy, hq, a, ha, _, _, rfl⟩ := hadd e' he'
  exact hother a ha ⟨⟨hy, hq⟩, h1, h2⟩

/-- Generalisation of `never_unannounced` to an arbitrary start state: every
entry of the final state was in the start state or stems from an accepted
announce in the history. -/
theorem C11.run_peers (c : SrvCfg) (mk : TokenFn)
    (hist : List (NAddr × QMsg × Env)) (s0 s : Srv)
    (hrun : hist.foldlM (fun (st : Srv) (ev : NAddr × QMsg × Env) =>
      (processMsg c mk st ev.1 ev.2.1 ev.2.2).map (·.1)) s0 = some s)
    (e : PeerEntry) (he : e ∈ s.peers) :
    e ∈ s0.peers ∨
    ∃ ev ∈ hist, ∃ a, ev.2.1.a = some a ∧ isAnnounce ev.2.1 ∧ e = ⟨a.infoHash, ev.1.ip, announcedPort ev.1 a⟩ := by
  refine foldlM_induction (P := fun s => ∀ e ∈ s.peers, e ∈ s0.peers ∨
    ∃ ev ∈ hist, ∃ a, ev.2.1.a = some a ∧ isAnnounce ev.2.1 ∧ e = ⟨a.infoHash, ev.1.ip, announcedPort ev.1 a⟩)
    hrun (fun e he => .inl he) ?_ e he
  intro ev hev s1 s2 ih hstep e he
  obtain ⟨⟨s2', outs, effs⟩, hs, rfl⟩ := Option.map_eq_some_iff.mp hstep
  obtain ⟨hp, hadd⟩ := processMsg_peers hs
  rw [hp] at he
  rcases mem_applyEffects he with h2 | h2
  · exact ih e h2
  · obtain ⟨hy, hq, a, ha, _, _, hee⟩ := hadd e h2
    exact .inr ⟨ev, hev, a, ha, ⟨hy, hq⟩, hee⟩

/-- The store never holds an endpoint that was not announced: every entry of
every reachable state stems from an accepted announce in the history with that
infohash, source IP and announced port. -/
theorem C11.never_unannounced (c : SrvCfg) (mk : TokenFn)
    (hist : List (NAddr × QMsg × Env)) (s : Srv)
    (hrun : hist.foldlM (fun (st : Srv) (ev : NAddr × QMsg × Env) =>
      (processMsg c mk st ev.1 ev.2.1 ev.2.2).map (·.1)) ({} : Srv) = some s)
    (e : PeerEntry) (he : e ∈ s.peers) :
    ∃ ev ∈ hist, ∃ a, ev.2.1.a = some a ∧ isAnnounce ev.2.1 ∧ e = ⟨a.infoHash, ev.1.ip, announcedPort ev.1 a⟩ := by
  rcases C11.run_peers c mk hist {} s hrun e he with h1 | h1
  · simp at h1
  · exact h1

/-- What `get_peers` returns in `values` are stored endpoints for that
infohash (possibly with the IP converted between the 4- and 16-byte forms),
6-byte entries only to requesters wanting IPv4 and 18-byte entries only to
those wanting IPv6; and with a peer store every get_peers reply carries a token. -/
theorem C11.values_honour_bep32 (c : SrvCfg) (mk : TokenFn) (s : Srv) (src : NAddr) (m : QMsg) (a : QArgs) (env : Env)
    (hq : m.q = str "get_peers") (ha : m.a = some a) (hps : c.hasPeerStore = true)
    (o : Out) (r : Ret) (ho : o ∈ (dispatch c mk s src m env).1) (hr : o.kind = .reply r) :
    r.token.isSome = true ∧
    ∀ v ∈ r.values,
      (∃ e ∈ s.peers, e.ih = a.infoHash ∧ e.port = v.2 ∧ (v.1 = e.ip ∨ to4 e.ip = some v.1 ∨ to16 e.ip = some v.1)) ∧
      ((v.1.length = 4 ∧ shouldReturnNodes a.want src.ip = true) ∨
       (v.1.length = 16 ∧ shouldReturnNodes6 a.want src.ip = true)) := by
  rw [dispatch_get_peers hq ha] at ho
  cases List.mem_singleton.mp ho
  cases hr
  -- with a store the record carries the token and the filtered values, whether or not nodes are added
  have hrec : (getPeersRet c mk s src a).token.isSome = true ∧
      (getPeersRet c mk s src a).values = filterPeers src.ip a.want (peersFor s a.infoHash) := by
    simp only [getPeersRet, hps, if_true]
    split <;> exact ⟨rfl, rfl⟩
  refine ⟨hrec.1, fun v hvm => ?_⟩
  rw [hrec.2] at hvm
  obtain ⟨ip, hmem, hform, hfam⟩ := mem_filterPeers hvm
  obtain ⟨e, hes, hih, hip, hport⟩ := mem_peersFor s a.infoHash ip v.2 hmem
  subst hip
  exact ⟨⟨e, hes, hih, hport, hform⟩, hfam⟩

/-- An explicit want list overrides the address family of the query. -/
theorem C11.want_overrides_family (want : List (List UInt8)) (ip : List UInt8) (h : want ≠ []) :
    shouldReturnNodes want ip = wantsContain want "n4" ∧ shouldReturnNodes6 want ip = wantsContain want "n6" := by
  have hl : (want.length != 0) = true := by
    cases want with
    | nil => exact absurd rfl h
    | cons x xs => simp
  simp [shouldReturnNodes, shouldReturnNodes6, hl]

/-! ### Non-vacuity: a concrete announce followed by get_peers on the model -/

namespace C11Ex
def cfg : SrvCfg := { tbl := { root := Id.zero 20 }, hasPeerStore := true }
def tok : TokenFn := fun ip n => ip ++ [n.toUInt8]
def srcA : NAddr := ⟨[10, 0, 0, 1], 6881⟩
def srcB : NAddr := ⟨[10, 0, 0, 2], 6882⟩
def srcC : NAddr := ⟨[0x20, 1, 0xd, 0xb8, 0, 0, 0, 0, 0, 0, 0, 0, 0, 0, 0, 1], 6883⟩
def ih : Id := List.replicate 20 7
def annArgs : QArgs :=
  { id := List.replicate 20 1, infoHash := ih, token := tok (ip16Of srcA.ip) 0, port := some 51413 }
def ann : QMsg := { y := str "q", q := str "announce_peer", t := [1], a := some annArgs }
def gp (id : UInt8) (want : List (List UInt8)) : QMsg :=
  { y := str "q", q := str "get_peers", t := [2], a := some { id := List.replicate 20 id, infoHash := ih, want := want } }
/-- The `values` of the replies to `m` from `src` after the announce. -/
def valuesAfterAnnounce (src : NAddr) (m : QMsg) : Option (List (List (List UInt8 × Int))) :=
  (processMsg cfg tok {} srcA ann {}).bind (fun r => (processMsg cfg tok r.1 src m {}).map (fun r2 =>
    r2.2.1.filterMap (fun o => match o.kind with | .reply r => some r.values | _ => none)))
def hist : List (NAddr × QMsg × Env) := [(srcA, ann, {}), (srcB, gp 2 [], {})]
end C11Ex

open C11Ex in
/-- The hypotheses of `accepted_announce_stores` are met by a concrete announce
(valid token), and the entry is stored. -/
example : isAnnounce ann ∧ ann.a = some annArgs ∧ validToken cfg tok ({} : Srv).ts.now srcA.ip annArgs.token = true ∧
    (processMsg cfg tok {} srcA ann {}).map (fun r => (r.1.peers, r.2.1.length, r.2.2)) =
      some ([⟨ih, [10, 0, 0, 1], 51413⟩], 1, [.addPeer ⟨ih, [10, 0, 0, 1], 51413⟩]) := by
  refine ⟨⟨rfl, rfl⟩, rfl, ?_, ?_⟩ <;> decide +kernel

open C11Ex in
/-- A wrong token stores nothing and is not answered. -/
example : (processMsg cfg tok {} srcA { ann with a := some { annArgs with token := [1, 2, 3] } } {}).map
    (fun r => (r.1.peers, r.2.1, r.2.2)) = some ([], [], []) := by decide +kernel

open C11Ex in
/-- get_peers from an IPv4 address returns the announced endpoint as a 6-byte entry … -/
example : valuesAfterAnnounce srcB (gp 2 []) = some [[([10, 0, 0, 1], 51413)]] := by decide +kernel

open C11Ex in
/-- … an IPv6 requester asking for `n4` gets the same 6-byte entry, and an IPv4
requester asking for `n6` the 18-byte (v4-mapped) form … -/
example : valuesAfterAnnounce srcC (gp 3 [str "n4"]) = some [[([10, 0, 0, 1], 51413)]] ∧
    valuesAfterAnnounce srcB (gp 3 [str "n6"]) =
      some [[([0, 0, 0, 0, 0, 0, 0, 0, 0, 0, 255, 255, 10, 0, 0, 1], 51413)]] := by decide +kernel

open C11Ex in
/-- … and another infohash gets no values. -/
example : valuesAfterAnnounce srcB { gp 2 [] with a := some { id := List.replicate 20 2, infoHash := List.replicate 20 8 } }
    = some [[]] := by decide +kernel

open C11Ex in
/-- The history of `never_unannounced` is runnable and ends with a non-empty store. -/
example : (hist.foldlM (fun (st : Srv) (ev : NAddr × QMsg × Env) =>
      (processMsg cfg tok st ev.1 ev.2.1 ev.2.2).map (·.1)) ({} : Srv)).map (·.peers) =
    some [⟨ih, [10, 0, 0, 1], 51413⟩] := by decide +kernel

end Dht
