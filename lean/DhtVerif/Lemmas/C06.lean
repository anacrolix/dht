/- One step seen from the new table (where its entries come from) and from the
old one (which entries survive). -/
import DhtVerif.Lemmas.C05
namespace Dht

theorem TblState.step_mem {c : TableCfg} {s s' : TblState} {ev : TblEv} {out : AddOutcome}
    (h : s.step c ev = some (s', out)) {n : Node} (hn : n ∈ s'.table) :
    (∃ n0 ∈ s.table, n.id = n0.id ∧ n.addr = n0.addr) ∨ (ev.introduces n.id n.addr.key ∧ isBad c n = false) := by
  rcases TblState.step_cases h with ⟨ht, _⟩ | ⟨addr, tryAdd, upd, ch, hupd, hu, hintro, _⟩
  · exact .inl ⟨n, ht ▸ hn, rfl, rfl⟩
  · rcases updateNode_cases hu with ⟨ht, _⟩ | ⟨id', _, ht, _⟩ | ⟨id', i, u, hid', hta, _, _, hbad, _, _, ht, hu⟩
    · exact .inl ⟨n, ht ▸ hn, rfl, rfl⟩
    · obtain ⟨n0, h0, rfl⟩ := List.mem_map.mp (ht ▸ hn)
      exact .inl ⟨n0, h0, hupd.ite (·.is addr id') n0⟩
    · rcases List.mem_append.mp (ht ▸ hn) with hn | hn
      · refine .inl ⟨n, ?_, rfl, rfl⟩
        rcases hu with ⟨rfl, _⟩ | ⟨d, _, rfl, _⟩
        · exact hn
        · exact (List.mem_filter.mp hn).1
      · rw [List.mem_singleton.mp hn, (hupd _).1, (hupd _).2] at *
        exact .inr ⟨hintro hta id' hid', hbad⟩

theorem TblState.step_survive {c : TableCfg} {s s' : TblState} {ev : TblEv} {out : AddOutcome}
    (h : s.step c ev = some (s', out)) {n : Node} (hn : n ∈ s.table) :
    (∃ n' ∈ s'.table, n'.id = n.id ∧ n'.addr = n.addr) ∨
    (out = .replaced n ∧
      (isBad c n = true ∨ (n.lastResp = none ∧ ∃ src id ro ch, ev = .recvResponse src id ro ch))) := by
  rcases TblState.step_cases h with ⟨ht, _⟩ | ⟨addr, tryAdd, upd, ch, hupd, hu, _, hresp⟩
  · exact .inl ⟨n, ht ▸ hn, rfl, rfl⟩
  · rcases updateNode_cases hu with ⟨ht, _⟩ | ⟨id', _, ht, _⟩ | ⟨id', i, u, _, _, _, _, _, _, _, ht, hu⟩
    · exact .inl ⟨n, ht ▸ hn, rfl, rfl⟩
    · exact .inl ⟨_, ht ▸ List.mem_map_of_mem hn, hupd.ite (·.is addr id') n⟩
    · rcases hu with ⟨rfl, _⟩ | ⟨d, hd, rfl, hout, _⟩
      · exact .inl ⟨n, ht ▸ List.mem_append_left _ hn, rfl, rfl⟩
      · by_cases hnd : n = d
        · subst hnd
          refine .inr ⟨hout, (mem_droppable.mp hd).2.2.2.imp_right fun ⟨hgood, hr⟩ => ⟨hr, ?_⟩⟩
          -- the newcomer is good, so it has answered: only a matched response writes `lastResp`
          refine hresp.resolve_left fun hkeep => ?_
          have := (isGood_imp hgood).2
          rw [hkeep] at this; cases this
        · exact .inl ⟨n, ht ▸ List.mem_append_left _ (List.mem_filter.mpr ⟨hn, by simpa using hnd⟩), rfl, rfl⟩

end Dht
