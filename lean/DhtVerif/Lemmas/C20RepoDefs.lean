/- The repaired discipline of `limiterWait` as a model (definitions only; the lemmas are in Lemmas/C20CancelRepo.lean,
the property theorems in Props/C20CancelRepo.lean). -/
import DhtVerif.Model.RateCancel
namespace Dht

/-! ## The discipline of `limiterWait`

`limiterWait` remembers the value of the counter `sendLimiterGiveBacks` at the moment it reserves;
its `cancel` closure calls `r.CancelAt(time.Now())` only if the counter still has that value, i.e.
if `limiterGiveBack` was not called (successfully or not) since the reservation was made. Otherwise
the reservation is left alone: its token is neither used for a datagram nor handed back.

`CHist.pending` lists the reservations in the order they were made (`reserve` appends, `use` and
`cancel` erase), so the reservations made before the most recent `giveBack` event are a prefix of
it; `RHist.old` is the length of that prefix. -/

/-- The `i`-th pending reservation is abandoned without `CancelAt` being called. -/
def CHist.lapse (s : CHist) (i : Nat) : CHist :=
  match s.pending[i]? with
  | some _ => { s with pending := s.pending.eraseIdx i, cancelled := s.cancelled + 1 }
  | none => s

/-- A history run under the discipline of the repo: `old` pending reservations (the first `old`
entries of `s.pending`) were made before the most recent `giveBack` event. -/
structure RHist where
  s : CHist
  old : Nat := 0
  deriving DecidableEq, Repr

namespace RHist

def init (p q burst t0 : Nat) : RHist := { s := CHist.init p q burst t0 }

/-- One event. `cancel i` is EFFECTIVE (calls `CancelAt`, i.e. is `CHist.step`) only when the
`i`-th pending reservation was made after the most recent `giveBack` event (`old ≤ i`); otherwise
the reservation lapses. Every other event is `CHist.step`. -/
def step (r : RHist) : CEv → RHist
  | .giveBack => { s := r.s.step .giveBack, old := r.s.pending.length }
  | .cancel i =>
    if r.old ≤ i then { s := r.s.step (.cancel i), old := r.old }
    else { s := r.s.lapse i, old := r.old - 1 }
  | .cancelStale i t =>
    if r.old ≤ i then { s := r.s.step (.cancelStale i t), old := r.old }
    else { s := r.s.lapse i, old := r.old - 1 }
  | .use i =>
    { s := r.s.step (.use i),
      old := if i < r.old ∧ (r.s.step (.use i)).pending.length < r.s.pending.length then r.old - 1 else r.old }
  | .adv dt => { s := r.s.step (.adv dt), old := r.old }
  | .allow => { s := r.s.step .allow, old := r.old }
  | .reserve => { s := r.s.step .reserve, old := r.old }

def run (r : RHist) (h : List CEv) : RHist := h.foldl step r

/-- What an event wastes, in units (cf. `CHist.wasteStep`): an effective cancellation gives up one
token of budget and hands back `credited`; a cancellation that is skipped gives up its token. -/
def wasteStep (r : RHist) : CEv → Int
  | .cancel i =>
    if r.old ≤ i then r.s.wasteStep (.cancel i)
    else match r.s.pending[i]? with
      | some _ => (r.s.c.b.unit : Int)
      | none => 0
  | _ => 0

/-- the running total of `wasteStep`, started at `W`, never falls below zero -/
def wasteOk (r : RHist) (W : Int) : List CEv → Bool
  | [] => true
  | e :: h => decide (0 ≤ W + r.wasteStep e) && wasteOk (r.step e) (W + r.wasteStep e) h

/-- an effective cancellation credits at most the token it reserved (cf. `CHist.creditOk`) -/
def creditOk (r : RHist) : CEv → Bool
  | .cancel i => decide (i < r.old) || r.s.creditOk (.cancel i)
  | _ => true

def runOk (r : RHist) : List CEv → Bool
  | [] => true
  | e :: h => r.creditOk e && runOk (r.step e) h

/-- The event cancels, among the reservations that may still be cancelled, only the one made most
recently (the last entry of `pending`). -/
def lifoEv (r : RHist) : CEv → Bool
  | .cancel i => decide (i < r.old) || decide (i + 1 = r.s.pending.length) || decide (r.s.pending.length ≤ i)
  | _ => true

/-- `lifoEv` at every event of the history: reservations are abandoned last-made-first. -/
def lifoOk (r : RHist) : List CEv → Bool
  | [] => true
  | e :: h => r.lifoEv e && lifoOk (r.step e) h

/-- The event cancels, among the reservations that may still be cancelled, only one that is still
waiting for its slot (`now < slot`: its holder sleeps in `limiterWait`) or the one made most
recently (e.g. the deadline test of `limiterWait` right after `ReserveN`). -/
def waitEv (r : RHist) : CEv → Bool
  | .cancel i =>
    decide (i < r.old) || decide (i + 1 = r.s.pending.length) ||
      (match r.s.pending[i]? with
       | some x => decide (r.s.now < x.slot)
       | none => true)
  | _ => true

def waitOk (r : RHist) : List CEv → Bool
  | [] => true
  | e :: h => r.waitEv e && waitOk (r.step e) h

end RHist

/-- The history `h` run from `s` under the discipline of the repo. -/
def CHist.runRepo (s : CHist) (h : List CEv) : CHist := (RHist.run { s := s } h).s

end Dht
