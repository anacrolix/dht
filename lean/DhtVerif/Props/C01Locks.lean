/-
C01 (deadlock part) — a lock-recursion / lock-order certificate for the Go source.

`sync.RWMutex`: a goroutine that takes `RLock` while it already holds `RLock` deadlocks as soon as a
writer queues up in between; `Lock` while holding `Lock`/`RLock` deadlocks always; two mutexes taken
in opposite orders by two goroutines deadlock under the right interleaving. The theorems below say
that the source, as regenerated into `Gen.lockFuncs` / `Gen.lockBinds` by /verif/extract/locks.go on
every run, contains none of these patterns:

* `C01.lock_facts_well_formed`    the extractor met no shape it does not model; ids, callees, bindings are consistent.
* `C01.no_lock_recursion`         no function acquires a mutex it holds; no function calls, while it holds `m`,
                                  a function that may (through any chain of same-goroutine calls, function
                                  values and interface methods included) acquire `m`; and no callee hands a
                                  locked mutex back to a caller whose own bookkeeping does not say "held".
* `C01.lock_order_acyclic`        there is a rank on the mutexes that strictly increases from every held
                                  mutex to every mutex acquired meanwhile; `C01.lock_order_no_cycle`: no cycle.
* `C01.callbacks_under_lock`      the user-supplied callbacks / interface implementations that are invoked
                                  while a mutex is held, with the mutexes — the remaining obligation on the
                                  USER of the package (they must not call back into the Server).
* `C01.lock_checker_finds_seeded_recursion`   negative control: the same checks on a hand-written fact list
                                  that reproduces a seeded defect (`TraversalNodeFilter` taking `s.mu.RLock()`)
                                  report exactly that recursion, with its call path, and the resulting
                                  cycle in the lock order.

Scope: all non-test files of the module except cmd/, internal/ and verif_hooks.go (`Gen.lockFiles`):
package dht, traversal, bep44, peer-store, transactions, krpc, int160, types, containers,
k-nearest-nodes, exts/getput. Mutexes: every field / variable of type sync.Mutex / sync.RWMutex
there (`Gen.lockMutexes`), among them Server.mu, traversal.Operation.mu, sendLimiterMu.

OVER-approximations (can only add alarms)
* a mutex is its class ("Server.mu" = field `mu` of any Server): two Servers or two Operations are not
  told apart; Lock and RLock are not told apart;
* per function, the state of each mutex is a may-set over all paths (branches joined, loops iterated to
  a fixpoint, a `defer` under a condition may or may not run); conditions are not interpreted;
* a call through a function-typed field / parameter / variable may reach every function value that
  is bound to a field / parameter / variable of that NAME anywhere in the module (fields are keyed by
  field name only), plus every function value whose flow is not tracked (returned from a function,
  stored in a slice / map / channel, passed to code outside the module: slot `dyn:*`);
* an interface method call may reach that method of every type of the module that implements the
  interface; a method call on a receiver whose type go/types could not determine (values obtained
  from other modules) may reach every method of that name in the module (`Gen.lockByName`);
* a function value passed to code outside the module (sort comparators, `sync.Once.Do`,
  `slices.SortedFunc`, iterators) is assumed to be called there and then, under the caller's locks;
* `AcqAny` (lock order) ignores unlock-before-relock inside callees.

UNDER-approximations (what the certificate does NOT cover; see `Gen.lockExternalHeld`,
`Gen.lockUnboundSlots`, `C01.callbacks_under_lock`)
* code outside the module: functions and methods of other modules are assumed not to call back into
  the module except through function values handed to them at that call (see above). This covers
  calls through interfaces DECLARED outside the module (net.PacketConn = `ServerConfig.Conn`,
  log.Logger, iplist.Ranger = the IP block list, rate.Limiter, io.Writer, error): an implementation of
  such an interface that calls a locking method of Server while Server.mu is held would deadlock
  and is not seen;
* callbacks supplied by the user (`ServerConfig.OnQuery`, `OnAnnouncePeer`, `StartingNodes`,
  `QueryResendDelay`, `bep44.Store`, `peer_store.Interface` implementations other than the module's own):
  `C01.callbacks_under_lock` lists those that run under a mutex; what they do is the user's business;
* only mutexes: channel operations, `sync.WaitGroup.Wait`, `chansync` events and conditions
  (`op.cond`, `b.changed`, `closed`, `stalled`) are not locks here — waiting on one of them while holding
  a mutex (none found by inspection: `refreshBucket`, `pingQuestionableNodesInBucket`, `Operation.run`
  and `Stop` all unlock before they wait) is outside this certificate; C02/C03/C14 cover the waits;
* a panic between `Lock` and a non-deferred `Unlock` leaves the mutex locked; not modelled;
* reflection, `unsafe`, cgo, `TryLock`, embedded mutexes, `goto` into loops: none in the source, and the
  extractor reports them in `Gen.lockUnsupported` (required to be empty) rather than guessing.
The extractor itself (go/ast + go/types walk, extract/locks.go) is trusted to transcribe the syntax:
which mutex a `x.mu.Lock()` denotes, which function a call denotes, statement order. The tables
`Gen.lockMayAcq` / `lockAnyAcq` / `lockHeldOnEntry` / `lockRank` are NOT trusted: the kernel checks that
they are post-fixpoints / a valid rank, and `Lemmas/C01Locks.lean` proves that this suffices.

When `C01.lock_checks_pass` fails after a source change, the offending call path is printed by the
extractor ("locks: RECURSION f holds m and calls g -> … -> h") and by
`#eval Dht.Locks.namedViolationPaths` / `#eval Dht.Locks.namedEdges`.
-/
import DhtVerif.Model.Locks
import DhtVerif.Lemmas.C01Locks
namespace Dht
open Locks

theorem C01.lock_facts_well_formed :
    Gen.lockUnsupported = [] ∧
    wellFormed prog Gen.lockNumNodes Gen.lockNumFuncs Gen.lockBinds = true ∧
    Gen.lockFuncNames.length = Gen.lockNumNodes ∧
    Gen.lockRank.length = Gen.lockMutexes.length := by
  decide +kernel

theorem C01.lock_tables_closed :
    closed true prog mayAcqT = true ∧ closed false prog anyAcqT = true ∧
    leavesClosed prog leavesT = true ∧ closedH prog heldT = true := by
  decide +kernel

theorem C01.lock_checks_pass :
    recOk prog mayAcqT = true ∧ leaveOk prog leavesT = true ∧ orderOk prog anyAcqT rank = true := by
  decide +kernel

theorem C01.lock_ids : IdsOk prog ∧ prog.length = Gen.lockNumNodes :=
  idsOk_of_wellFormed C01.lock_facts_well_formed.2.1

/-- NO LOCK RECURSION.
(1) No function locks a mutex that it has itself locked and not yet unlocked.
(2) Whenever a function calls `c.callee` in its own goroutine at a point where it holds `m`
    (`hasH`: on some path to that call it has locked `m` and not unlocked it), there is no chain of
    same-goroutine calls from the callee — through function values and interface methods as bound in
    `Gen.lockBinds` — that locks `m` before some function of the chain has unlocked it.
(3) A callee that may return with `m` locked (it unlocked and re-locked the caller's mutex) is only
    called where the caller's own record of `m` is exactly "held" (bits = 2) — so the record stays right.
Together, by induction over an execution: no goroutine ever acquires a mutex (class) it already holds. -/
theorem C01.no_lock_recursion :
    (∀ (f : Nat) (fn : Fn) (a : Acq), prog[f]? = some fn → a ∈ fn.acqs → hasH (bitsOf a.st a.m) = false) ∧
    (∀ (f : Nat) (fn : Fn) (c : Call) (m : Nat), prog[f]? = some fn → c ∈ fn.calls → c.sync = true →
      hasH (bitsOf c.st m) = true → ¬ MayAcq prog c.callee m) ∧
    (∀ (f : Nat) (fn g : Fn) (c : Call) (m : Nat), prog[f]? = some fn → c ∈ fn.calls → c.sync = true →
      prog[c.callee]? = some g → hasH (bitsOf g.exit m) = true → bitsOf c.st m = 2) := by
  have hid := C01.lock_ids.1
  obtain ⟨hc1, _, hl, _⟩ := C01.lock_tables_closed
  obtain ⟨hr, hlo, _⟩ := C01.lock_checks_pass
  refine ⟨?_, ?_, ?_⟩
  · intro f fn a hf ha
    exact recOk_acq hr hf ha
  · intro f fn c m hf hc hs hh
    exact recOk_call hr hc1 hid hf hc hs hh
  · intro f fn g c m hf hc hs hg hh
    exact leaveOk_call hl hlo hid hf hc hs hg hh

/-- ACYCLIC LOCK ORDER: a rank on the mutexes that strictly increases from every mutex that is held
to every mutex acquired meanwhile (by the holder itself or by anything it calls in its goroutine). -/
theorem C01.lock_order_acyclic :
    ∃ rank : Nat → Nat, ∀ m1 m2 : Nat, Before prog m1 m2 → rank m1 < rank m2 :=
  ⟨rank, fun _ _ hb =>
    orderOk_sound C01.lock_checks_pass.2.2 C01.lock_tables_closed.2.1 C01.lock_ids.1 hb⟩

theorem C01.lock_order_no_cycle (m : Nat) : ¬ Relation.TransGen (Before prog) m m := by
  obtain ⟨r, hr⟩ := C01.lock_order_acyclic
  intro h
  exact Nat.lt_irrefl _ (no_cycle_of_rank hr m m h)

/-- Whatever mutex may be held by the callers when function `g` is entered is in the table `heldT`. -/
theorem C01.held_on_entry_table (g m : Nat) (h : HeldOnEntry prog g m) : m ∈ heldT g :=
  closedH_sound C01.lock_tables_closed.2.2.2 C01.lock_ids.1 h

/-! ## Non-vacuity: the facts do contain the interesting call sites -/

def C01.fid (n : String) : Nat := Gen.lockFuncNames.idxOf n
def C01.mid (n : String) : Nat := Gen.lockMutexes.idxOf n

/-- `f` calls `g` in its own goroutine at a point where it holds `m` -/
def C01.callsHolding (f g m : String) : Bool :=
  match prog[C01.fid f]? with
  | none => false
  | some fn => fn.calls.any (fun c => Nat.beq c.callee (C01.fid g) && c.sync && hasH (bitsOf c.st (C01.mid m)))

def C01.locks (f m : String) : Bool :=
  match prog[C01.fid f]? with
  | none => false
  | some fn => fn.acqs.any (fun a => Nat.beq a.m (C01.mid m))

/-- What the certificate says BY NAME, as one statement: the callbacks entered under a lock (first conjunct, see
`C01.callbacks_under_lock`) and the call sites of the non-vacuity example below. Looking a function up by name makes the
kernel encode the 416 names of `Gen.lockFuncNames`; inside one declaration it does that once. -/
theorem C01.facts_by_name :
    (heldWhenCalled (Gen.lockUnboundSlots ++
      ["iface:bep44.Store.Put", "iface:bep44.Store.Get", "iface:bep44.Store.Del",
       "iface:peer_store.Interface.GetPeers", "iface:peer_store.Interface.AddPeer"]) =
    [("field:OnQuery", ["Server.mu"]),
     ("field:timeNow", ["Server.mu"]),
     ("iface:bep44.Store.Put", ["Server.mu", "bep44.Wrapper.mu"]),
     ("iface:bep44.Store.Get", ["Server.mu", "bep44.Wrapper.mu"]),
     ("iface:bep44.Store.Del", ["Server.mu", "bep44.Wrapper.mu"]),
     ("iface:peer_store.Interface.GetPeers", ["Server.mu"])]) ∧
    C01.callsHolding "Server.refreshBucket" "traversal.Operation.AddNodes" "Server.mu" = true ∧
    C01.callsHolding "Server.refreshBucket" "traversal.Start" "Server.mu" = true ∧
    C01.locks "traversal.Operation.AddNodes" "traversal.Operation.mu" = true ∧
    C01.callsHolding "traversal.Operation.AddNodes" "traversal.Operation.addNodeLocked" "traversal.Operation.mu" = true ∧
    pathOk prog (C01.mid "traversal.Operation.mu") [C01.fid "Server.refreshBucket", C01.fid "traversal.Operation.AddNodes"] = true ∧
    (prog[C01.fid "field:NodeFilter"]?.map (fun fn => fn.calls.any (fun c => Nat.beq c.callee (C01.fid "Server.TraversalNodeFilter")))) = some true ∧
    C01.locks "Server.processPacket" "Server.mu" = true ∧
    C01.callsHolding "Server.processPacket" "Server.handleQuery" "Server.mu" = true ∧
    C01.callsHolding "Server.TableMaintainer" "Server.pingQuestionableNodesInBucket" "Server.mu" = true ∧
    C01.locks "limiterWait" "sendLimiterMu" = true := by
  decide +kernel

/-- CALLBACKS UNDER LOCK (audit list, by name). The slots nothing of the module is bound to
(`Gen.lockUnboundSlots`: configuration callbacks) and the interface methods whose implementation may be
supplied by the user, that can be entered while a mutex is held, with the mutexes that may be held then.
By `C01.held_on_entry_table` the list is complete for the analysed call graph. Read it as the contract
on the user of the package: `ServerConfig.OnQuery` runs under `Server.mu` (it is called from
`handleQuery`, inside `processPacket`'s critical section), a `bep44.Store` under `Server.mu` and the
wrapper's mutex, a `peer_store.Interface`'s `GetPeers` under `Server.mu`: none of them may call a method of
the Server that locks. (`tokenServer.timeNow` is only set by tests and by verif_hooks.go.) -/
theorem C01.callbacks_under_lock :
    heldWhenCalled (Gen.lockUnboundSlots ++
      ["iface:bep44.Store.Put", "iface:bep44.Store.Get", "iface:bep44.Store.Del",
       "iface:peer_store.Interface.GetPeers", "iface:peer_store.Interface.AddPeer"]) =
    [("field:OnQuery", ["Server.mu"]),
     ("field:timeNow", ["Server.mu"]),
     ("iface:bep44.Store.Put", ["Server.mu", "bep44.Wrapper.mu"]),
     ("iface:bep44.Store.Get", ["Server.mu", "bep44.Wrapper.mu"]),
     ("iface:bep44.Store.Del", ["Server.mu", "bep44.Wrapper.mu"]),
     ("iface:peer_store.Interface.GetPeers", ["Server.mu"])] :=
  C01.facts_by_name.1

/-- The call sites the seeded defect turns into a deadlock are in the facts: `refreshBucket` calls
`op.AddNodes` and `traversal.Start` holding `Server.mu`; `AddNodes` locks `op.mu` and calls
`addNodeLocked` (an explicit call path `refreshBucket → AddNodes` reaches the acquisition of `op.mu`),
which calls the node filter, to which `Server.TraversalNodeFilter` is bound; the receive
loop locks `Server.mu` in `processPacket` and calls `handleQuery` (→ `OnQuery`, the store) holding it. -/
example :
    C01.callsHolding "Server.refreshBucket" "traversal.Operation.AddNodes" "Server.mu" = true ∧
    C01.callsHolding "Server.refreshBucket" "traversal.Start" "Server.mu" = true ∧
    C01.locks "traversal.Operation.AddNodes" "traversal.Operation.mu" = true ∧
    C01.callsHolding "traversal.Operation.AddNodes" "traversal.Operation.addNodeLocked" "traversal.Operation.mu" = true ∧
    pathOk prog (C01.mid "traversal.Operation.mu") [C01.fid "Server.refreshBucket", C01.fid "traversal.Operation.AddNodes"] = true ∧
    (prog[C01.fid "field:NodeFilter"]?.map (fun fn => fn.calls.any (fun c => Nat.beq c.callee (C01.fid "Server.TraversalNodeFilter")))) = some true ∧
    C01.locks "Server.processPacket" "Server.mu" = true ∧
    C01.callsHolding "Server.processPacket" "Server.handleQuery" "Server.mu" = true ∧
    C01.callsHolding "Server.TableMaintainer" "Server.pingQuestionableNodesInBucket" "Server.mu" = true ∧
    C01.locks "limiterWait" "sendLimiterMu" = true :=
  C01.facts_by_name.2

theorem C01.callsHolding_spec {f g m : String} (h : C01.callsHolding f g m = true) :
    ∃ fn c, prog[C01.fid f]? = some fn ∧ c ∈ fn.calls ∧ c.callee = C01.fid g ∧ c.sync = true ∧
      hasH (bitsOf c.st (C01.mid m)) = true := by
  unfold C01.callsHolding at h
  split at h
  · cases h
  · rename_i fn hf
    simp only [List.any_eq_true, Bool.and_eq_true, Nat.beq_eq] at h
    obtain ⟨c, hc, ⟨hg, hs⟩, hh⟩ := h
    exact ⟨fn, c, hf, hc, hg, hs, hh⟩

theorem C01.locks_spec {f m : String} (h : C01.locks f m = true) :
    ∃ fn a, prog[C01.fid f]? = some fn ∧ a ∈ fn.acqs ∧ a.m = C01.mid m := by
  unfold C01.locks at h
  split at h
  · cases h
  · rename_i fn hf
    simp only [List.any_eq_true, Nat.beq_eq] at h
    obtain ⟨a, ha, hm⟩ := h
    exact ⟨fn, a, hf, ha, hm⟩

/-- In particular (instance of `no_lock_recursion` (2)): nothing `op.AddNodes` can reach locks `Server.mu`. -/
theorem C01.addNodes_does_not_lock_server :
    ¬ MayAcq prog (C01.fid "traversal.Operation.AddNodes") (C01.mid "Server.mu") := by
  obtain ⟨fn, c, hf, hc, hg, hs, hh⟩ := C01.callsHolding_spec C01.facts_by_name.2.1
  rw [← hg]
  exact C01.no_lock_recursion.2.1 _ fn c _ hf hc hs hh

/-- The lock order is not empty: `Server.mu` is held while `traversal.Operation.mu` is acquired
(`refreshBucket` → `op.AddNodes`), so `Operation.mu` must never be held while `Server.mu` is acquired. -/
theorem C01.server_mu_before_operation_mu :
    Before prog (C01.mid "Server.mu") (C01.mid "traversal.Operation.mu") := by
  obtain ⟨fn, c, hf, hc, hcg, hs, hh⟩ := C01.callsHolding_spec C01.facts_by_name.2.1
  obtain ⟨gn, a, hg, ha, hm⟩ := C01.locks_spec C01.facts_by_name.2.2.2.1
  refine Before.call hf hc hs hh ?_ (by decide +kernel)
  rw [hcg, ← hm]
  exact AcqAny.direct hg ha

/-! ## Negative control: the seeded defect

Hand-written facts in the shape the extractor produces for

    func (s *Server) refreshBucket(...) { s.mu.RLock(); …; op.AddNodes(…); …; s.mu.RUnlock() … }
    func (op *Operation) AddNodes(...)  { op.mu.Lock(); defer op.mu.Unlock(); … op.addNodeLocked(n) … }
    func (op *Operation) addNodeLocked(n) { … op.input.NodeFilter(n) … }
    traversal.OperationInput{ NodeFilter: s.TraversalNodeFilter, … }
    func (s *Server) TraversalNodeFilter(…) { s.mu.RLock(); blocked := s.ipBlocked(…); s.mu.RUnlock(); … }   ← seeded
    func (s *Server) processPacket(...) { …; s.mu.Lock(); defer s.mu.Unlock(); … }                          (the writer)

mutex 0 = Server.mu, 1 = traversal.Operation.mu. -/

def C01.seeded : Prog := ofFacts [
  /- 0 Server.refreshBucket -/       (0, [(0, 1, []), (0, 1, [(0, 4)])], [(1, 0, [(0, 2)]), (5, 0, [(0, 2)])], [(0, 4)]),
  /- 1 Operation.AddNodes -/         (1, [(1, 0, [])], [(2, 0, [(1, 2)])], [(1, 4)]),
  /- 2 Operation.addNodeLocked -/    (2, [], [(3, 0, [])], []),
  /- 3 field:NodeFilter -/           (3, [], [(4, 0, [])], []),
  /- 4 Server.TraversalNodeFilter -/ (4, [(0, 1, [])], [(5, 0, [(0, 2)])], [(0, 4)]),
  /- 5 Server.ipBlocked -/           (5, [], [], []),
  /- 6 Server.processPacket -/       (6, [(0, 0, [])], [], [(0, 5)])]

/-- The checker finds the recursion in the seeded facts: its table is a post-fixpoint, the check fails,
the only violation is "`refreshBucket` holds Server.mu and calls `AddNodes`, which may acquire Server.mu",
and the path it reports is AddNodes → addNodeLocked → NodeFilter → TraversalNodeFilter. Semantically:
there IS a call site holding `Server.mu` whose callee may acquire it, and the lock order has a cycle, so
no rank exists. -/
theorem C01.lock_checker_finds_seeded_recursion :
    closed true C01.seeded (solve true C01.seeded 2).at = true ∧
    recOk C01.seeded (solve true C01.seeded 2).at = false ∧
    recViolations C01.seeded (solve true C01.seeded 2).at = [(0, 1, 0)] ∧
    witness C01.seeded (solve true C01.seeded 2).at 8 1 0 = [1, 2, 3, 4] ∧
    (∃ (fn : Fn) (c : Call), C01.seeded[0]? = some fn ∧ c ∈ fn.calls ∧ c.sync = true ∧
      hasH (bitsOf c.st 0) = true ∧ MayAcq C01.seeded c.callee 0) ∧
    (Before C01.seeded 0 1 ∧ Before C01.seeded 1 0) ∧
    ¬ ∃ rank : Nat → Nat, ∀ m1 m2 : Nat, Before C01.seeded m1 m2 → rank m1 < rank m2 := by
  have hpath : MayAcq C01.seeded 1 0 := pathOk_sound (path := [2, 3, 4]) (by decide +kernel)
  have hfn : C01.seeded[0]? = some
      { id := 0, acqs := [⟨0, 1, []⟩, ⟨0, 1, [(0, 4)]⟩], calls := [⟨1, 0, [(0, 2)]⟩, ⟨5, 0, [(0, 2)]⟩], exit := [(0, 4)] } := by
    rfl
  have hgn : C01.seeded[1]? = some
      { id := 1, acqs := [⟨1, 0, []⟩], calls := [⟨2, 0, [(1, 2)]⟩], exit := [(1, 4)] } := by
    rfl
  have hb01 : Before C01.seeded 0 1 :=
    Before.call (c := ⟨1, 0, [(0, 2)]⟩) hfn (by simp) (by decide) (by decide)
      (AcqAny.direct (a := ⟨1, 0, []⟩) hgn (by simp)) (by decide)
  have hb10 : Before C01.seeded 1 0 :=
    Before.call (c := ⟨2, 0, [(1, 2)]⟩) hgn (by simp) (by decide) (by decide)
      (MayAcq.any (pathOk_sound (path := [3, 4]) (by decide +kernel))) (by decide)
  refine ⟨by decide +kernel, by decide +kernel, by decide +kernel, by decide +kernel, ?_, ⟨hb01, hb10⟩, ?_⟩
  · exact ⟨_, ⟨1, 0, [(0, 2)]⟩, hfn, by simp, by decide, by decide, hpath⟩
  · rintro ⟨r, hr⟩
    have h1 := hr 0 1 hb01
    have h2 := hr 1 0 hb10
    omega

/-- The same facts without the seeded `RLock` pass. -/
def C01.unseeded : Prog := ofFacts [
  (0, [(0, 1, []), (0, 1, [(0, 4)])], [(1, 0, [(0, 2)]), (5, 0, [(0, 2)])], [(0, 4)]),
  (1, [(1, 0, [])], [(2, 0, [(1, 2)])], [(1, 4)]),
  (2, [], [(3, 0, [])], []),
  (3, [], [(4, 0, [])], []),
  (4, [], [(5, 0, [])], []),
  (5, [], [], []),
  (6, [(0, 0, [])], [], [(0, 5)])]

example : closed true C01.unseeded (solve true C01.unseeded 2).at = true ∧
    recOk C01.unseeded (solve true C01.unseeded 2).at = true ∧
    closed false C01.unseeded (solve false C01.unseeded 2).at = true ∧
    orderOk C01.unseeded (solve false C01.unseeded 2).at (fun m => m) = true := by
  decide +kernel

end Dht
