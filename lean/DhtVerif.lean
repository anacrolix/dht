-- Root of the library: imports every property module, so that `lake build` checks everything and the helper-lemma
-- files (Lemmas/) cannot silently reuse a name. A check builds only its own property (`lake build DhtVerif.Props.Cxx`).
import DhtVerif.Props.C01
import DhtVerif.Props.C01Locks
import DhtVerif.Props.C02
import DhtVerif.Props.C02Honest
import DhtVerif.Props.C03
import DhtVerif.Props.C04
import DhtVerif.Props.C05
import DhtVerif.Props.C06
import DhtVerif.Props.C07
import DhtVerif.Props.C07Issuer
import DhtVerif.Props.C08
import DhtVerif.Props.C09
import DhtVerif.Props.C10
import DhtVerif.Props.C11
import DhtVerif.Props.C12
import DhtVerif.Props.C12Client
import DhtVerif.Props.C13
import DhtVerif.Props.C13Fault
import DhtVerif.Props.C14
import DhtVerif.Props.C14Issuer
import DhtVerif.Props.C15
import DhtVerif.Props.C16
import DhtVerif.Props.C17
import DhtVerif.Props.C18
import DhtVerif.Props.C19
import DhtVerif.Props.C20
import DhtVerif.Props.C20Cancel
import DhtVerif.Props.C20CancelRepo
import DhtVerif.Props.ST2Bep44
import DhtVerif.Props.ST2Closer
import DhtVerif.Props.ST2Filter
import DhtVerif.Props.ST2Local
import DhtVerif.Props.ST2Questionable
import DhtVerif.Props.STCheckIncoming
import DhtVerif.Props.STCommon
import DhtVerif.Props.STGates
import DhtVerif.Props.STHaveQuery
import DhtVerif.Props.STNodes
