/-
C12 (store side) — the BEP 44 store never accepts or serves a forged or oversized item.

Property theorems about the executable model DhtVerif/Model/Bep44.lean.
ed25519 verification `P.verify` and SHA-1 `P.H`
are PARAMETERS: the theorems hold for every `verify` and every `H` (so in particular for the
real ones); no cryptographic assumption is needed on the store side, because "valid" is stated
as "`verify` accepts the item's own (salt, seq, v) buffer under its own key" and "the right
place" as "`H` of key ‖ salt / of the encoded value". All theorems hold for both CAS rules.
The client side of C12 (exts/getput) is in Props/C12Client.lean and at the end of this file.
-/
import DhtVerif.Lemmas.C12
import DhtVerif.Props.C12Client
import DhtVerif.Props.ST2Bep44
namespace Dht
open B44

/-- The limits and codes the model uses are BEP 44's in the source tree. -/
theorem C12.limits_and_codes_from_source :
    Gen.bep44MaxV = 1000 ∧ Gen.bep44MaxSalt = 64 ∧ Gen.bep44ErrValueFieldTooBig = 205 ∧
    Gen.bep44ErrInvalidSignature = 206 ∧ Gen.bep44ErrSaltFieldTooBig = 207 ∧ Gen.missing = [] :=
  ⟨rfl, rfl, rfl, rfl, rfl, rfl⟩

/-- INVARIANT over all histories of puts (any item: any key, salt, seq, value, signature),
gets (any target) and clock advances, from any store that satisfies it (e.g. the empty one):
every stored mutable item verifies for its own (salt, seq, v) under its own key, has a salt of
at most 64 bytes and an encoded value of at most 1000 bytes, and sits under `H(k ‖ salt)`;
every stored immutable item is at most 1000 bytes and sits under `H(bencode v)`. -/
theorem C12.stored_items_valid (P : Params) (exp : Nat) (s : St) (evs : List Ev)
    (h : StoreInv P s.store) : StoreInv P (s.run P exp evs).store :=
  List.foldlRecOn evs (St.step P exp) (motive := fun s => StoreInv P s.store) h fun s hs ev _ => StoreInv.step P exp s ev hs

/-- The invariant holds initially. -/
theorem C12.empty_store_valid (P : Params) : StoreInv P Store.empty := by
  intro t e h; cases h

/-- Whatever a get hands out — through `Wrapper.Get` or in an inbound `get` reply, with or
without `seq` — is the item stored under the asked target (and it is younger than the expiry). -/
theorem C12.served_is_stored (exp now : Nat) (s : Store) (t : Target) (a : Option Int) :
    (∀ i, (Wrapper.get exp now s t).2 = some i → ∃ e, s t = some e ∧ e.item = i) ∧
    (∀ i, (handleGet exp now s t a).2 = .full i → ∃ e, s t = some e ∧ e.item = i) := by
  rcases get_cases exp now s t a with ⟨_, hw, hh⟩ | ⟨e, _, _, hw, hh⟩ | ⟨e, hs, _, hw, hh⟩
  · rw [hw, hh]; exact ⟨fun i hi => (by cases hi), fun i hi => (by cases hi)⟩
  · rw [hw, hh]; exact ⟨fun i hi => (by cases hi), fun i hi => (by cases hi)⟩
  · rw [hw, hh]; exact ⟨fun i hi => ⟨e, hs, Option.some.inj hi⟩, fun i hi => ⟨e, hs, answer_full hi⟩⟩

/-- Hence, in every state reached by any history from the empty store, a get reply for target
`t` carries a mutable item only if it verifies, is within the limits and `t = H(k ‖ salt)`, and
an immutable item only if `t = H(bencode v)`. -/
theorem C12.served_items_valid (P : Params) (exp now : Nat) (evs : List Ev) (t : Target) (a : Option Int) (i : Item)
    (hi : (handleGet exp ((⟨Store.empty, now⟩ : St).run P exp evs).now
            ((⟨Store.empty, now⟩ : St).run P exp evs).store t a).2 = .full i) :
    i.bv.length ≤ 1000 ∧
    (∀ k, i.k = some k →
        i.salt.length ≤ 64 ∧ P.verify k (bufferToSign i.salt i.seq i.bv) i.sig = true ∧ t = P.H (k ++ i.salt)) ∧
    (i.k = none → t = P.H i.bv) := by
  obtain ⟨e, he, rfl⟩ := (C12.served_is_stored exp _ _ t a).2 i hi
  obtain ⟨⟨hv, hm⟩, ht1, ht2⟩ := C12.stored_items_valid P exp ⟨Store.empty, now⟩ evs (C12.empty_store_valid P) t e he
  exact ⟨hv, fun k hk => ⟨(hm k hk).1, (hm k hk).2, ht1 k hk⟩, ht2⟩

/-- A put that fails `Check` is answered with the BEP 44 code for the first failing test, in
the order of the Go code (value size, salt size, signature), and leaves the store unchanged;
every rejected put — whatever the reason, 205/206/207 or the sequence rules of C13 — leaves
the store unchanged; and 205/206/207 are given for no other reason. -/
theorem C12.rejected_put_code_and_pure (P : Params) (now : Nat) (s : Store) (i : Item) :
    (i.bv.length > 1000 → Wrapper.put P now s i = (s, some 205)) ∧
    (∀ k, i.bv.length ≤ 1000 → i.k = some k → i.salt.length > 64 → Wrapper.put P now s i = (s, some 207)) ∧
    (∀ k, i.bv.length ≤ 1000 → i.k = some k → i.salt.length ≤ 64 →
        P.verify k (bufferToSign i.salt i.seq i.bv) i.sig = false → Wrapper.put P now s i = (s, some 206)) ∧
    ((Wrapper.put P now s i).2 ≠ none → (Wrapper.put P now s i).1 = s) ∧
    (ItemValid P i → (Wrapper.put P now s i).2 ≠ some 205 ∧ (Wrapper.put P now s i).2 ≠ some 206 ∧
        (Wrapper.put P now s i).2 ≠ some 207) := by
  refine ⟨fun h => ?_, fun k h1 hk h2 => ?_, fun k h1 hk h2 h3 => ?_, Wrapper.put_rejected_pure P now s i, fun hval => ?_⟩
  · exact Wrapper.put_of_check now (by rw [check_eq, if_pos h])
  · exact Wrapper.put_of_check now (by rw [check_eq, if_neg (Nat.not_lt.mpr h1), hk]; exact if_pos h2)
  · refine Wrapper.put_of_check now ?_
    rw [check_eq, if_neg (Nat.not_lt.mpr h1), hk]
    show (if i.salt.length > 64 then _ else _) = _
    rw [if_neg (Nat.not_lt.mpr h2), h3]; rfl
  · -- a valid item passes `Check`; what `CheckIncoming` answers is 301 or 302
    have hc := (check_eq_none_iff P i).mpr hval
    rcases Wrapper.put_cases P now s i with ⟨e, he, _⟩ | ⟨st, e, _, _, hci, h'⟩ | ⟨_, _, h'⟩
    · rw [hc] at he; cases he
    · rw [h']
      have : e = 301 ∨ e = 302 := checkIncomingWith_code hci
      rcases this with rfl | rfl <;> simp
    · rw [h']; simp

/-- The inbound `put` is `Wrapper.put` on the message's fields (an all-zero `k` meaning
"immutable"); without `seq` it is answered 203 and the store is not touched. -/
theorem C12.inbound_put_is_wrapper_put (P : Params) (now : Nat) (s : Store) (bv k salt sig : Bytes) (cas : Int) :
    (∀ q, handlePut P now s bv k salt sig cas (some q) = Wrapper.put P now s ⟨bv, keyOfWire k, salt, sig, cas, q⟩) ∧
    handlePut P now s bv k salt sig cas none = (s, some 203) := by
  exact ⟨fun _ => rfl, rfl⟩

/-- With an idealised signature scheme ("verifies iff made for exactly this key and message")
a genuine item is stored and served, the same item with a signature made for another seq is
refused with 206 and a 65-byte salt with 207. -/
example :
    let P : Params := ⟨fun b => b, fun k m sg => sg == k ++ m, false⟩
    let good : Item := ⟨[105, 49, 101], some [7], [1], [7] ++ bufferToSign [1] 4 [105, 49, 101], 0, 4⟩
    let forged : Item := { good with seq := 5 }
    let salty : Item := { good with salt := List.replicate 65 0 }
    (Wrapper.put P 0 Store.empty good).2 = none ∧
    ((Wrapper.put P 0 Store.empty good).1 ([7] ++ [1])).map (·.item.seq) = some 4 ∧
    (Wrapper.put P 0 Store.empty forged).2 = some 206 ∧
    (Wrapper.put P 0 Store.empty salty).2 = some 207 := by decide +kernel

/-! Client side (exts/getput/getput.go), about Model/Getput.lean; the theorems that Props/C12Client.lean
also states are restated here in full. `evs` ranges over ALL finite
sequences of query outcomes (`some reply` with any fields, `none` = no `r`), in arrival order. -/

/-- Whatever `Get` hands its caller is the value of a reply that hashes to the target, or that
carries a `seq`, whose key ‖ salt hashes to the target and whose signature verifies for exactly
(salt, seq, v) under that key. -/
theorem C12.client_accepts_only_valid (H : Bytes → Target) (verify : Key → Bytes → Bytes → Bool)
    (target : Target) (salt : Bytes) (evs : List Getput.Event) (hseq : Getput.Int64Seqs evs)
    (res : Getput.GetResult) (h : Getput.clientGet H verify target salt evs = some res) :
    ∃ r, some r ∈ evs ∧ res.v = r.v ∧ res.sig = r.sig ∧
      ((res.isMutable = false ∧ H r.bv = target) ∨
       (res.isMutable = true ∧ r.seq = some res.seq ∧ H (r.k ++ salt) = target ∧
          verify r.k (bufferToSign salt res.seq r.bv) r.sig = true)) :=
  C12Client.client_accepts_only_valid H verify target salt evs hseq res h

/-- The mutable value returned carries the largest sequence number among all accepted replies
of the sequence; it is one of them, later arrivals are strictly smaller (ties: the later one). -/
theorem C12.client_returns_max_seq (H : Bytes → Target) (verify : Key → Bytes → Bytes → Bool)
    (target : Target) (salt : Bytes) (evs : List Getput.Event) (hseq : Getput.Int64Seqs evs)
    (res : Getput.GetResult) (h : Getput.clientGet H verify target salt evs = some res)
    (hm : res.isMutable = true) :
    (∀ x ∈ Getput.results H verify target salt evs, x.isMutable = true ∧ x.seq ≤ res.seq) ∧
    ∃ pre post, Getput.results H verify target salt evs = pre ++ res :: post ∧
      (∀ x ∈ pre, x.seq ≤ res.seq) ∧ (∀ x ∈ post, x.seq < res.seq) :=
  C12Client.client_returns_max_seq H verify target salt evs hseq res h hm

/-- For every arrival order: a permutation of the outcomes changes neither whether a value is
found, nor its kind, nor its sequence number. -/
theorem C12.client_result_order_independent (H : Bytes → Target) (verify : Key → Bytes → Bytes → Bool)
    (target : Target) (salt : Bytes) (evs evs' : List Getput.Event) (hp : evs'.Perm evs)
    (hseq : Getput.Int64Seqs evs) :
    (Getput.clientGet H verify target salt evs').map (fun r => (r.isMutable, r.seq)) =
    (Getput.clientGet H verify target salt evs).map (fun r => (r.isMutable, r.seq)) := by
  refine Getput.getFold_key_perm (List.Perm.filterMap _ hp) (Getput.results_inRange hseq) fun x hx => ?_
  obtain ⟨_, _, hacc⟩ := Getput.mem_results.mp hx
  exact (Getput.accept_some hacc).2.2.2

/-- "Value not found" exactly when no reply of the sequence is accepted. -/
theorem C12.client_not_found_iff (H : Bytes → Target) (verify : Key → Bytes → Bytes → Bool)
    (target : Target) (salt : Bytes) (evs : List Getput.Event) :
    Getput.clientGet H verify target salt evs = none ↔
      ∀ r, some r ∈ evs → Getput.accept H verify target salt r = none := by
  unfold Getput.clientGet Getput.results
  rw [Getput.getFold_none_iff, List.filterMap_eq_nil_iff]
  refine ⟨fun h r hr => h (some r) hr, fun h e he => ?_⟩
  cases e with
  | none => rfl
  | some r => exact h r he

/-- Removing an outcome that is not accepted, anywhere in the sequence, changes neither what
`Get` returns nor the number `Put` derives. -/
theorem C12.client_ignores_invalid (H : Bytes → Target) (verify : Key → Bytes → Bytes → Bool)
    (target : Target) (salt : Bytes) (pre post : List Getput.Event) (e : Getput.Event)
    (he : Getput.acceptEv H verify target salt e = none) :
    Getput.clientGet H verify target salt (pre ++ e :: post) = Getput.clientGet H verify target salt (pre ++ post) ∧
    Getput.putSeq H verify target salt (pre ++ e :: post) = Getput.putSeq H verify target salt (pre ++ post) := by
  have : Getput.results H verify target salt (pre ++ e :: post) = Getput.results H verify target salt (pre ++ post) := by
    rw [Getput.results_append, Getput.results_append]
    congr 1
    unfold Getput.results
    rw [List.filterMap_cons, he]
  unfold Getput.clientGet Getput.putSeq
  rw [this]; exact ⟨rfl, rfl⟩

/-- `Put` hands `seqToPut` the largest accepted mutable sequence number, or 0. -/
theorem C12.put_autoseq_is_max (H : Bytes → Target) (verify : Key → Bytes → Bytes → Bool)
    (target : Target) (salt : Bytes) (evs : List Getput.Event) :
    0 ≤ Getput.putSeq H verify target salt evs ∧
    (∀ x ∈ Getput.results H verify target salt evs, x.isMutable = true →
        x.seq ≤ Getput.putSeq H verify target salt evs) ∧
    (Getput.putSeq H verify target salt evs = 0 ∨
      ∃ r, some r ∈ evs ∧ r.seq = some (Getput.putSeq H verify target salt evs) ∧ H (r.k ++ salt) = target ∧
        verify r.k (bufferToSign salt (Getput.putSeq H verify target salt evs) r.bv) r.sig = true) := by
  unfold Getput.putSeq
  rw [Getput.putAutoSeq_eq]
  obtain ⟨hge, hmax, hmem⟩ := Getput.foldl_pickSeq_spec (Getput.results H verify target salt evs) 0
  refine ⟨hge, hmax, ?_⟩
  rcases hmem with h | ⟨x, hx, hm, hs⟩
  · exact Or.inl h
  · right
    obtain ⟨r, hr, hacc⟩ := Getput.mem_results.mp hx
    rcases (Getput.accept_some hacc).2.2.1 with ⟨hf, _⟩ | ⟨_, hq, hk, hver⟩
    · rw [hm] at hf; cases hf
    · rw [← hs]; exact ⟨r, hr, hq, hk, hver⟩

/-- The outcome of `Get` under any arrival order satisfies the order-free check the driver
applies when the arrival order was not observed. -/
theorem C12.client_any_order_allowed (rs rs' : List Getput.GetResult) (hp : rs'.Perm rs)
    (hr : Getput.SeqsInRange rs) : Getput.getAllowed rs (Getput.getFold rs') = true := by
  have hr' : Getput.SeqsInRange rs' := fun x hx hm => hr x (hp.mem_iff.mp hx) hm
  rcases Getput.getFold_cases rs' hr' with ⟨hnil, hn⟩ | ⟨pre, v, post, he, _, hv, hs⟩ | ⟨hall, r, pre, post, hs, he, h1, h2⟩
  · rw [hn, (hnil ▸ hp : List.Perm [] rs).symm.eq_nil]; rfl
  · have hvm : v ∈ rs := hp.mem_iff.mp (by rw [he]; simp)
    rw [hs]; simp [Getput.getAllowed, hvm, hv]
  · have hrm : r ∈ rs := hp.mem_iff.mp (by rw [he]; simp)
    rw [hs]
    have hmut : r.isMutable = true := hall r (by rw [he]; simp)
    simp only [Getput.getAllowed, List.contains_iff_mem.mpr hrm, hmut, if_true, Bool.true_and, List.all_eq_true,
      Bool.and_eq_true, decide_eq_true_eq]
    exact fun x hx => ⟨hall x (hp.mem_iff.mpr hx), Getput.le_of_split he h1 h2 x (hp.mem_iff.mpr hx)⟩

/-- The token `Put` sends a node is the one of that node's own reply (a responder without token
is, with the filter as written in the code, kept with the empty token). -/
theorem C12.put_token_is_nodes_own (effective : Bool) (e : Getput.Event) (tok : Bytes)
    (h : Getput.closestEntryWith effective e = some tok) :
    ∃ r, e = some r ∧ (r.token = some tok ∨ (r.token = none ∧ tok = [] ∧ effective = false)) := by
  cases e with
  | none => simp [Getput.closestEntryWith] at h
  | some r =>
    refine ⟨r, rfl, ?_⟩
    cases ht : r.token with
    | some t => simp [Getput.closestEntryWith, ht] at h; left; rw [h]
    | none =>
      cases effective with
      | true => simp [Getput.closestEntryWith, ht] at h
      | false => simp [Getput.closestEntryWith, ht] at h; right; exact ⟨rfl, h, rfl⟩

/-- `Check` in bep44/item.go (with `Item.IsMutable` and `Verify` read from their own sources) IS the model's
`check`, for all items and parameters. -/
theorem C12.check_is_the_source (P : Params) (i : Item) :
    Gen.treeBep44CheckLets = ckLetsExpected ∧
    DExp.evalWith (ckCond P i) ckRet Gen.treeBep44Check = some (check P i) :=
  SourceTrees.bep44Check P i

/-- `Item.Target` (bep44/item.go) and `Put.Target` (bep44/put.go, through `Put.IsMutable` and
`MakeMutableTarget`) both ARE the model's `target`; `Item.IsMutable` is `Item.isMutable`. -/
theorem C12.targets_are_the_source (P : Params) (i : Item) :
    DExp.evalWith (itCond i) (itRet P i) Gen.treeItemTarget = some (target P i) ∧
    DExp.evalWith (ptCond i) (ptRet P i) Gen.treePutTarget = some (target P i) ∧
    DExp.evalWith noCond (imRet i) Gen.treeItemIsMutable = some i.isMutable :=
  ⟨SourceTrees.itemTarget P i, SourceTrees.putTarget P i, SourceTrees.itemIsMutable i⟩

end Dht
