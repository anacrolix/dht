/-
Soundness of the lock checks of Model/Locks.lean: a table that passes `closed` contains the
call-path semantics (`MayAcq`, `AcqAny`, `HeldOnEntry`), so the Boolean checks `recOk`, `leaveOk`,
`orderOk` — evaluated by the kernel on the regenerated facts — imply the statements about call paths.
-/
import DhtVerif.Model.Locks
namespace Dht.Locks

theorem mem_iff {m : Nat} {l : List Nat} : mem m l = true ↔ m ∈ l := by
  induction l with
  | nil => simp [mem]
  | cons x xs ih => simp only [mem, Bool.or_eq_true, Nat.beq_eq, ih, List.mem_cons, eq_comm (a := x)]

theorem hasH_one : hasH 1 = false := by decide

theorem key_of_hasH {st : St} {m : Nat} (h : hasH (bitsOf st m) = true) : ∃ e ∈ st, e.1 = m := by
  fun_induction bitsOf st m
  case case1 => cases hasH_one.symm.trans h
  case case2 e _ _ hk => exact ⟨e, List.mem_cons_self, Nat.eq_of_beq_eq_true hk⟩ -- the first entry is for `m`
  case case3 ih => -- it is for another mutex
    obtain ⟨e', he', hm⟩ := ih h
    exact ⟨e', List.mem_cons_of_mem _ he', hm⟩

theorem mem_heldIn {st : St} {m : Nat} (h : hasH (bitsOf st m) = true) : m ∈ heldIn st := by
  obtain ⟨e, he, hm⟩ := key_of_hasH h
  unfold heldIn
  rw [List.mem_map]
  refine ⟨e, ?_, hm⟩
  rw [List.mem_filter]
  exact ⟨he, by rw [hm]; exact h⟩

theorem idsFrom_spec : ∀ (P : Prog) (i k : Nat), idsFrom P i = some k →
    k = i + P.length ∧ ∀ (j : Nat) (fn : Fn), P[j]? = some fn → fn.id = i + j := by
  intro P i k
  fun_induction idsFrom P i <;> intro h
  case case1 => exact ⟨(Option.some.inj h).symm, nofun⟩
  case case2 g rest i hb ih => -- the first function has the id `i`, the others count on from `i + 1`
    obtain ⟨hk, hid⟩ := ih h
    refine ⟨hk.trans (Nat.add_right_comm i 1 _), fun j fn hj => ?_⟩
    cases j with
    | zero => cases hj; exact Nat.eq_of_beq_eq_true hb
    | succ j => exact (hid j fn hj).trans (Nat.add_right_comm i 1 j)
  case case3 => cases h

/-- what `wellFormed` gives: positions are ids -/
def IdsOk (P : Prog) : Prop := ∀ (f : Nat) (fn : Fn), P[f]? = some fn → fn.id = f

theorem idsOk_of_wellFormed {P : Prog} {n nf : Nat} {binds : List (Nat × Nat)}
    (h : wellFormed P n nf binds = true) : IdsOk P ∧ P.length = n := by
  unfold wellFormed at h
  simp only [Bool.and_eq_true] at h
  obtain ⟨⟨h1, _⟩, _⟩ := h
  cases hi : idsFrom P 0 with rw [hi] at h1
  | none => cases h1
  | some k =>
    obtain ⟨hk, hid⟩ := idsFrom_spec P 0 k hi
    rw [Nat.zero_add] at hk
    exact ⟨fun f fn hf => (hid f fn hf).trans (Nat.zero_add f), hk.symm.trans (Nat.eq_of_beq_eq_true h1)⟩

theorem callee_lt_of_wellFormed {P : Prog} {n nf : Nat} {binds : List (Nat × Nat)}
    (h : wellFormed P n nf binds = true) {f : Nat} {fn : Fn} {c : Call}
    (hf : P[f]? = some fn) (hc : c ∈ fn.calls) : c.callee < P.length := by
  have hlen := (idsOk_of_wellFormed h).2
  unfold wellFormed at h
  simp only [Bool.and_eq_true, List.all_eq_true] at h
  obtain ⟨⟨_, h2⟩, _⟩ := h
  have := (h2 fn (List.mem_of_getElem? hf)).1 c hc
  rw [hlen]
  simpa [Nat.blt_eq] using this

theorem mem_stepFn_direct {rel : Bool} {T : Look} {fn : Fn} {a : Acq} (ha : a ∈ fn.acqs)
    (h : (!rel || hasE (bitsOf a.st a.m)) = true) : a.m ∈ stepFn rel T fn := by
  unfold stepFn
  rw [List.mem_append]
  left
  rw [List.mem_map]
  exact ⟨a, by rw [List.mem_filter]; exact ⟨ha, h⟩, rfl⟩

theorem mem_stepFn_call {rel : Bool} {T : Look} {fn : Fn} {c : Call} {m : Nat} (hc : c ∈ fn.calls)
    (hs : c.sync = true) (hm : m ∈ T c.callee) (h : (!rel || hasE (bitsOf c.st m)) = true) :
    m ∈ stepFn rel T fn := by
  unfold stepFn
  rw [List.mem_append]
  right
  rw [List.mem_flatMap]
  refine ⟨c, hc, ?_⟩
  rw [hs]
  simp only [cond_true, List.mem_filter]
  exact ⟨hm, h⟩

theorem fn_check {P : Prog} {chk : Fn → Bool} (h : P.all chk = true) {f : Nat} {fn : Fn} (hf : P[f]? = some fn) :
    chk fn = true :=
  List.all_eq_true.mp h fn (List.mem_of_getElem? hf)

/-- The per-call checks have the form `!c.sync || body c`: at a same-goroutine call they give `body c`. -/
theorem sync_check {fn : Fn} {body : Call → Bool} (h : fn.calls.all (fun c => !c.sync || body c) = true)
    {c : Call} (hc : c ∈ fn.calls) (hs : c.sync = true) : body c = true := by
  simpa [hs] using List.all_eq_true.mp h c hc

theorem closed_step {rel : Bool} {P : Prog} {T : Look} (hc : closed rel P T = true) (hid : IdsOk P)
    {f : Nat} {fn : Fn} (hf : P[f]? = some fn) {m : Nat} (hm : m ∈ stepFn rel T fn) : m ∈ T f := by
  have h2 := List.all_eq_true.mp (fn_check hc hf) m hm
  rw [hid f fn hf] at h2
  exact mem_iff.mp h2

theorem closed_sound {P : Prog} {T : Look} (hc : closed true P T = true) (hid : IdsOk P)
    {f m : Nat} (h : MayAcq P f m) : m ∈ T f := by
  induction h with
  | direct hf ha he =>
    exact closed_step hc hid hf (mem_stepFn_direct ha (by simp [he]))
  | call hf hcl hs he _ ih =>
    exact closed_step hc hid hf (mem_stepFn_call hcl hs ih (by simp [he]))

theorem closed_sound_any {P : Prog} {T : Look} (hc : closed false P T = true) (hid : IdsOk P)
    {f m : Nat} (h : AcqAny P f m) : m ∈ T f := by
  induction h with
  | direct hf ha =>
    exact closed_step hc hid hf (mem_stepFn_direct ha (by simp))
  | call hf hcl hs _ ih =>
    exact closed_step hc hid hf (mem_stepFn_call hcl hs ih (by simp))

theorem MayAcq.any {P : Prog} {f m : Nat} (h : MayAcq P f m) : AcqAny P f m := by
  induction h with
  | direct hf ha _ => exact AcqAny.direct hf ha
  | call hf hc hs _ _ ih => exact AcqAny.call hf hc hs ih

theorem recOk_acq {P : Prog} {T : Look} (h : recOk P T = true) {f : Nat} {fn : Fn} {a : Acq}
    (hf : P[f]? = some fn) (ha : a ∈ fn.acqs) : hasH (bitsOf a.st a.m) = false := by
  have := List.all_eq_true.mp (Bool.and_eq_true_iff.mp (fn_check h hf)).1 a ha
  simpa using this

theorem recOk_call {P : Prog} {T : Look} (h : recOk P T = true) (hc : closed true P T = true)
    (hid : IdsOk P) {f : Nat} {fn : Fn} {c : Call} {m : Nat} (hf : P[f]? = some fn) (hcl : c ∈ fn.calls)
    (hs : c.sync = true) (hh : hasH (bitsOf c.st m) = true) : ¬ MayAcq P c.callee m := by
  intro hm
  have := List.all_eq_true.mp (sync_check (Bool.and_eq_true_iff.mp (fn_check h hf)).2 hcl hs) m
    (closed_sound hc hid hm)
  rw [hh] at this
  cases this

/-- A callee that may return with `m` locked is called only where the caller's state of `m` is "held". -/
theorem leaveOk_call {P : Prog} {L : Look} (hl : leavesClosed P L = true) (h : leaveOk P L = true)
    (hid : IdsOk P) {f : Nat} {fn g : Fn} {c : Call} {m : Nat} (hf : P[f]? = some fn) (hcl : c ∈ fn.calls)
    (hs : c.sync = true) (hg : P[c.callee]? = some g) (hh : hasH (bitsOf g.exit m) = true) :
    bitsOf c.st m = 2 := by
  have h1 := List.all_eq_true.mp (fn_check hl hg) m (mem_heldIn hh)
  rw [hid _ g hg] at h1
  exact Nat.eq_of_beq_eq_true (List.all_eq_true.mp (sync_check (fn_check h hf) hcl hs) m (mem_iff.mp h1))

theorem orderOk_sound {P : Prog} {A : Look} {rank : Nat → Nat} (h : orderOk P A rank = true)
    (hc : closed false P A = true) (hid : IdsOk P) {m1 m2 : Nat} (hb : Before P m1 m2) :
    rank m1 < rank m2 := by
  have key : ∀ {m1 m2}, m1 ≠ m2 → (Nat.beq m1 m2 || Nat.blt (rank m1) (rank m2)) = true → rank m1 < rank m2 :=
    fun hne h => Nat.blt_eq.mp ((Bool.or_eq_true _ _ ▸ h).resolve_left fun e => hne (Nat.eq_of_beq_eq_true e))
  cases hb with
  | acq hf ha hh hne =>
    have h1 := List.all_eq_true.mp (Bool.and_eq_true_iff.mp (fn_check h hf)).1 _ ha
    exact key hne (List.all_eq_true.mp h1 m1 (mem_heldIn hh))
  | call hf hcl hs hh hany hne =>
    have h1 := sync_check (Bool.and_eq_true_iff.mp (fn_check h hf)).2 hcl hs
    exact key hne (List.all_eq_true.mp (List.all_eq_true.mp h1 m1 (mem_heldIn hh)) m2 (closed_sound_any hc hid hany))

theorem no_cycle_of_rank {r : Nat → Nat → Prop} {rank : Nat → Nat}
    (h : ∀ a b, r a b → rank a < rank b) : ∀ a b, Relation.TransGen r a b → rank a < rank b := by
  intro a b hab
  induction hab with
  | single h1 => exact h _ _ h1
  | tail _ h2 ih => exact Nat.lt_trans ih (h _ _ h2)

theorem closedH_sound {P : Prog} {T : Look} (hc : closedH P T = true) (hid : IdsOk P)
    {g m : Nat} (h : HeldOnEntry P g m) : m ∈ T g := by
  induction h with
  | site hf hcl hs hh =>
    have h1 := (Bool.and_eq_true_iff.mp (sync_check (fn_check hc hf) hcl hs)).1
    exact mem_iff.mp (List.all_eq_true.mp h1 _ (mem_heldIn hh))
  | pass hf hcl hs he _ ih =>
    have h1 := (Bool.and_eq_true_iff.mp (sync_check (fn_check hc hf) hcl hs)).2
    have h2 := List.all_eq_true.mp h1 _ (by rw [hid _ _ hf]; exact ih)
    rw [he] at h2
    exact mem_iff.mp h2

/-- `path = [f0, f1, …, fk]`: each `fi` calls `fi+1` in the same goroutine without having touched `m`,
and `fk` locks `m` without having touched it. -/
def pathOk (P : Prog) (m : Nat) : List Nat → Bool
  | [] => false
  | [f] => match P[f]? with
    | none => false
    | some fn => fn.acqs.any (fun a => Nat.beq a.m m && hasE (bitsOf a.st a.m))
  | f :: g :: rest => (match P[f]? with
    | none => false
    | some fn => fn.calls.any (fun c => Nat.beq c.callee g && c.sync && hasE (bitsOf c.st m))) &&
    pathOk P m (g :: rest)

theorem pathOk_sound {P : Prog} {m : Nat} {path : List Nat} {f : Nat}
    (h : pathOk P m (f :: path) = true) : MayAcq P f m := by
  induction path generalizing f with rw [pathOk] at h
  | nil =>
    cases hf : P[f]? with rw [hf] at h
    | none => cases h
    | some fn =>
      simp only [List.any_eq_true, Bool.and_eq_true, Nat.beq_eq] at h
      obtain ⟨a, ha, rfl, he⟩ := h
      exact .direct hf ha he
  | cons g rest ih =>
    cases hf : P[f]? with rw [hf] at h
    | none => cases h
    | some fn =>
      simp only [List.any_eq_true, Bool.and_eq_true, Nat.beq_eq] at h
      obtain ⟨⟨c, hc, ⟨rfl, hs⟩, he⟩, h2⟩ := h
      exact .call hf hc hs he (ih h2)

end Dht.Locks
