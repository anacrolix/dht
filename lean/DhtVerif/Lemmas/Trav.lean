/-
The traversal machine of Model/Traversal.lean, prepared for proofs: what each operation does to a
state (one lemma per operation), the transition relation `Trav.Step` that `Trav.step` computes
(one constructor per enabled case of an event, the three reasons of a wake-up sharing `wake`, with the successor
state written out), and induction over histories. The invariants of the machine are proved by `cases` on a
`Trav.Step`; no invariant unfolds `Trav.step`, `Trav.Step.of_step` does it once for all of them.
-/
import DhtVerif.Model.Traversal
import DhtVerif.Lemmas.C18
namespace Dht

theorem setPhase_map_fst (l : List (Addr × QPhase)) (a : Addr) (p : QPhase) :
    (setPhase l a p).map (·.1) = l.map (·.1) := by
  unfold setPhase
  rw [List.map_map]
  apply List.map_congr_left
  intro e _
  simp only [Function.comp]
  split <;> rfl

theorem setPhase_length (l : List (Addr × QPhase)) (a : Addr) (p : QPhase) :
    (setPhase l a p).length = l.length := by
  simp [setPhase]

theorem mem_setPhase {l : List (Addr × QPhase)} {a : Addr} {p : QPhase} {e : Addr × QPhase}
    (h : e ∈ setPhase l a p) : e ∈ l ∨ e = (a, p) := by
  unfold setPhase at h
  obtain ⟨x, hx, rfl⟩ := List.mem_map.mp h
  split
  · rename_i hxa
    right; rw [← beq_iff_eq.mp hxa]
  · left; exact hx

theorem mem_setPhase_self {l : List (Addr × QPhase)} {a : Addr} {q : QPhase} (p : QPhase)
    (h : (a, q) ∈ l) : (a, p) ∈ setPhase l a p :=
  List.mem_map.mpr ⟨(a, q), h, by simp⟩

theorem phaseOf_mem {l : List (Addr × QPhase)} {a : Addr} {p : QPhase} (h : phaseOf l a = some p) :
    (a, p) ∈ l := by
  unfold phaseOf at h
  obtain ⟨e, hf, rfl⟩ := Option.map_eq_some_iff.mp h
  have h1 := List.find?_some hf
  rw [← beq_iff_eq.mp h1]
  exact List.mem_of_find?_eq_some hf

theorem filter_ne_length {l : List (Addr × QPhase)} {a : Addr} {p : QPhase}
    (hn : (l.map (·.1)).Nodup) (hm : (a, p) ∈ l) :
    (l.filter (fun e => !(e.1 == a))).length + 1 = l.length := by
  -- exactly one entry has the key `a`
  have h1 := hn.count (a := a)
  rw [if_pos (List.mem_map_of_mem (f := (·.1)) hm), List.count_eq_countP, List.countP_map] at h1
  have h2 := List.length_eq_countP_add_countP (·.1 == a) (l := l)
  simp only [Function.comp_def, List.countP_eq_length_filter, decide_not, Bool.decide_eq_true] at h1 h2
  omega

/-- Past `addClosest`. -/
def QPhase.past : QPhase → Bool
  | .closestDone _ => true
  | .nodesDone _ => true
  | .nodes6Done => true
  | _ => false

theorem Trav.addNode_cases (c : TravCfg) (s : Trav) (n : Cand) :
    ((n.addr.strKey ∈ s.queried ∨ c.nodeFilter n = false) ∧ s.addNode c n = s) ∨
    (n.addr.strKey ∉ s.queried ∧ c.nodeFilter n = true ∧
      s.addNode c n = { s with unq := SSet.add c.target s.unq n, gen := s.gen + 1 }) := by
  unfold Trav.addNode
  by_cases hq : n.addr.strKey ∈ s.queried <;> cases hf : c.nodeFilter n <;> simp [hq]

theorem Trav.addNodes_cons (c : TravCfg) (s : Trav) (n : Cand) (ns : List Cand) :
    s.addNodes c (n :: ns) = (s.addNode c n).addNodes c ns := rfl

theorem Trav.addNodes_induct {c : TravCfg} {P : Trav → Prop} (ns : List Cand) {s : Trav} (h0 : P s)
    (hstep : ∀ s, ∀ n ∈ ns, P s → P (s.addNode c n)) : P (s.addNodes c ns) := by
  induction ns generalizing s with
  | nil => exact h0
  | cons n ns ih =>
    rw [Trav.addNodes_cons]
    exact ih (hstep s n List.mem_cons_self h0) (fun s m hm => hstep s m (List.mem_cons_of_mem _ hm))

/-- What a returned query offers to the closest set: its responder, if it passes both filters. -/
def QResult.offer (c : TravCfg) (a : Addr) (r : QResult) : List KElem :=
  match r.responder with
  | some id => if c.nodeFilter ⟨some id, a⟩ && c.dataFilter r.data then [⟨id, a, r.data⟩] else []
  | none => []

theorem Trav.addClosest_closest (c : TravCfg) (s : Trav) (a : Addr) (r : QResult) :
    (s.addClosest c a r).closest = (r.offer c a).foldl (KNN.push c.target c.k) s.closest := by
  unfold Trav.addClosest QResult.offer
  cases r.responder with
  | none => rfl
  | some id =>
    dsimp only
    cases c.nodeFilter ⟨some id, a⟩ <;> cases c.dataFilter r.data <;> rfl

theorem Trav.addClosest_frame (c : TravCfg) (s : Trav) (a : Addr) (r : QResult) :
    s.addClosest c a r = { s with closest := (s.addClosest c a r).closest } := by
  fun_cases Trav.addClosest c s a r <;> rfl

theorem Trav.startQuery_cases (c : TravCfg) (s : Trav) :
    (s.unq = [] ∧ s.startQuery c = s) ∨
    ∃ a rest, s.unq = a :: rest ∧
      ((a.addr.strKey ∈ s.queried ∧ s.startQuery c = { s with unq := rest }) ∨
       (a.addr.strKey ∉ s.queried ∧
        s.startQuery c = { s with unq := rest, queried := s.queried ++ [a.addr.strKey], outstanding := s.outstanding + 1, inflight := s.inflight ++ [(a.addr, .inDoQuery)], started := s.started ++ [a.addr] })) := by
  unfold Trav.startQuery
  cases hu : s.unq with
  | nil => left; simp
  | cons a rest =>
    right
    refine ⟨a, rest, rfl, ?_⟩
    simp only [SSet.delete_head]
    cases hq : s.queried.contains a.addr.strKey
    · right; exact ⟨by simpa using hq, by simp⟩
    · left; exact ⟨by simpa using hq, by simp⟩

theorem Trav.haveQuery_nonempty {c : TravCfg} {s : Trav} (h : s.haveQuery c = true) : s.unq ≠ [] := by
  intro e
  unfold Trav.haveQuery at h
  rw [e] at h
  cases h

theorem Trav.startLoop_induct {c : TravCfg} {P : Trav → Prop} (fuel : Nat) {s : Trav} (h0 : P s)
    (hstep : ∀ s, P s → s.outstanding < c.alpha → s.haveQuery c = true → P (s.startQuery c)) :
    P (Trav.startLoop c fuel s) := by
  -- case1: no fuel left; case2: a round, under the loop's condition; case3: the condition fails
  fun_induction Trav.startLoop c fuel s with
  | case1 | case3 => exact h0
  | case2 fuel s hc ih =>
    simp only [Bool.and_eq_true, decide_eq_true_eq] at hc
    exact ih (hstep s h0 hc.1 hc.2)

theorem Trav.startLoop_done (c : TravCfg) (fuel : Nat) (s : Trav) (hf : s.unq.length < fuel) :
    (Trav.startLoop c fuel s).outstanding < c.alpha → (Trav.startLoop c fuel s).haveQuery c = false := by
  fun_induction Trav.startLoop c fuel s with
  | case1 => omega
  | case2 fuel s hc ih =>
    simp only [Bool.and_eq_true, decide_eq_true_eq] at hc
    apply ih
    -- a round takes one candidate from the frontier
    rcases Trav.startQuery_cases c s with ⟨hu, _⟩ | ⟨a, rest, hu, ⟨_, h⟩ | ⟨_, h⟩⟩
    · exact absurd hu (Trav.haveQuery_nonempty hc.2)
    all_goals
      rw [h]
      rw [hu] at hf
      exact Nat.lt_of_succ_lt_succ hf
  | case3 fuel s hc => simpa using hc

theorem Trav.exhausted_of_not_haveQuery {c : TravCfg} {s : Trav} (hs : SSet.pw c.target s.unq)
    (hq : s.haveQuery c = false) :
    (KNN.full c.k s.closest = false → s.unq = []) ∧
    (KNN.full c.k s.closest = true → ∀ far, KNN.farthest s.closest = some far → ∀ n ∈ s.unq,
      n.id = none ∨ ∃ i, n.id = some i ∧ Id.cmp (Id.distance i c.target) (Id.distance far.id c.target) = .gt) := by
  unfold Trav.haveQuery at hq
  cases hu : s.unq with
  | nil => simp
  | cons cu rest =>
    rw [hu] at hq hs
    have hhead := (List.pairwise_cons.mp hs).1
    refine ⟨fun hfull => by simp [hfull] at hq, fun hfull far hfar n hn => ?_⟩
    simp only [hfull, hfar, Bool.not_true, Bool.false_eq_true, if_false] at hq
    -- the head decides: everything behind it is no closer
    cases hid : cu.id with
    | none =>
      left
      rcases List.mem_cons.mp hn with rfl | hn'
      · exact hid
      · cases hnid : n.id with
        | none => rfl
        | some j => exact absurd (hhead n hn') (by rw [closerThan_none_some c.target _ _ j hid hnid]; simp)
    | some i =>
      rw [hid] at hq
      have hgt : Id.cmp (Id.distance i c.target) (Id.distance far.id c.target) = .gt := by simpa using hq
      rcases List.mem_cons.mp hn with rfl | hn'
      · exact Or.inr ⟨i, hid, hgt⟩
      · cases hnid : n.id with
        | none => exact Or.inl rfl
        | some j =>
          refine Or.inr ⟨j, rfl, (Id.cmp_gt_iff _ _).mpr ?_⟩
          have hlt := (Id.cmp_gt_iff _ _).mp hgt
          rcases (closerThan_some_some c.target cu n i j hid hnid).mp (hhead n hn') with h2 | ⟨h2, _⟩
          · exact Id.cmp_lt_trans _ _ _ hlt h2
          · rw [← h2]; exact hlt

/-- What the run loop would compute if it evaluated now (`currentOffer` of Props/C03 unfolds to this). -/
def Trav.curOffer (c : TravCfg) (s : Trav) : Bool := (!s.haveQuery c || c.alpha == 0) && s.outstanding == 0

theorem Trav.curOffer_iff {c : TravCfg} (halpha : c.alpha > 0) (s : Trav) :
    s.curOffer c = true ↔ s.haveQuery c = false ∧ s.outstanding = 0 := by
  have : (c.alpha == 0) = false := by simp; omega
  simp [Trav.curOffer, this]

/-- What `Trav.step c s e = some s'` implies, case by case (`Step.of_step`). After a wake-up `stalledSeen` is left
open: no invariant reads it. -/
inductive Trav.Step (c : TravCfg) (s : Trav) : TravEv → Trav → Prop
  | addNodes (ns : List Cand) : Step c s (.addNodes ns) (s.addNodes c ns)
  | exit : s.run = .awake → s.stopping = true → Step c s .runEval { s with run := .exited }
  | eval (t : Trav) : s.run = .awake → s.stopping = false → c.sigBeforeUnlock = true →
      t = Trav.startLoop c (s.unq.length + 1) s →
      Step c s .runEval { t with run := .sleeping t.gen (t.curOffer c) }
  | evalUnlocked (t : Trav) : s.run = .awake → s.stopping = false → c.sigBeforeUnlock = false →
      t = Trav.startLoop c (s.unq.length + 1) s →
      Step c s .runEval { t with run := .evaluated (t.curOffer c) }
  | capture (o : Bool) : s.run = .evaluated o → Step c s .captureGen { s with run := .sleeping s.gen o }
  | wake (g : Nat) (o : Bool) (why : WakeReason) (n : Nat) : s.run = .sleeping g o →
      (why = .broadcast → g < s.gen) → (why = .stopSeen → s.stopping = true) →
      (why = .stalledReceived → o = true) →
      Step c s (.runWake why) { s with run := .awake, stalledSeen := n }
  | queryReturn (a : Addr) (r : QResult) : phaseOf s.inflight a = some .inDoQuery →
      Step c s (.queryReturn a r) { s with inflight := setPhase s.inflight a (.returned r) }
  | addClosest (a : Addr) (r : QResult) : phaseOf s.inflight a = some (.returned r) →
      Step c s (.addClosest a)
        { s with closest := (s.addClosest c a r).closest, inflight := setPhase s.inflight a (.closestDone r) }
  | addReplyNodes (a : Addr) (r : QResult) : phaseOf s.inflight a = some (.closestDone r) →
      Step c s (.addReplyNodes a) { (s.addNodes c r.nodes) with inflight := setPhase s.inflight a (.nodesDone r) }
  | addReplyNodes6 (a : Addr) (r : QResult) : phaseOf s.inflight a = some (.nodesDone r) →
      Step c s (.addReplyNodes6 a) { (s.addNodes c r.nodes6) with inflight := setPhase s.inflight a .nodes6Done }
  | finish (a : Addr) : phaseOf s.inflight a = some .nodes6Done →
      Step c s (.finish a)
        { s with inflight := s.inflight.filter (fun e => !(e.1 == a)), outstanding := s.outstanding - 1, gen := s.gen + 1 }
  | stopAgain : s.stopping = true → Step c s .stop s
  | stop : s.stopping = false → Step c s .stop { s with stopping := true, stopper := .awake }
  | stopperDone : s.stopper = .awake → s.outstanding = 0 → Step c s .stopperStep { s with stopper := .done }
  | stopperSleep : s.stopper = .awake → s.outstanding ≠ 0 → Step c s .stopperStep { s with stopper := .sleeping s.gen }
  | stopperWake (g : Nat) : s.stopper = .sleeping g → g < s.gen → Step c s .stopperStep { s with stopper := .awake }

theorem Trav.Step.of_step {c : TravCfg} {s s' : Trav} {e : TravEv} (h : s.step c e = some s') :
    Trav.Step c s e s' := by
  revert h
  -- one case per branch of `Trav.step`, in the order of its text; `runEval`, `captureGen` and `runWake` have
  -- branches of their own
  fun_cases Trav.step c s e <;> intro h
  case case4 => -- `captureGen`
    revert h
    fun_cases Trav.captureGen s <;> intro h <;> cases h
    exact .capture _ ‹_›
  case case5 why => -- `runWake why`
    revert h
    fun_cases Trav.runWake s why <;> intro h <;> cases h
    · exact .wake _ _ .broadcast s.stalledSeen ‹_› (fun _ => ‹_›) nofun nofun
    · exact .wake _ _ .stopSeen s.stalledSeen ‹_› nofun (fun _ => ‹_›) nofun
    · exact .wake _ _ .stalledReceived _ ‹_› nofun nofun (fun _ => rfl)
  case case2 hr => -- `runEval` with the loop awake
    cases h
    have hr := eq_of_beq hr
    fun_cases Trav.runEval c s
    · exact .exit hr ‹_›
    · exact .eval _ hr (Bool.eq_false_iff.mpr ‹_›) ‹_› rfl
    · exact .evalUnlocked _ hr (Bool.eq_false_iff.mpr ‹¬s.stopping = true›) (Bool.eq_false_iff.mpr ‹_›) rfl
    · exact absurd hr ‹_›
  -- the failing branches go, the others name `s'`; what is left are the successful branches in the order of `Trav.step`'s
  -- text, each the constructor of `Trav.Step` named after its event
  all_goals cases h
  · exact .addNodes _
  · exact .queryReturn _ _ (eq_of_beq ‹_›)
  · rw [Trav.addClosest_frame]; exact .addClosest _ _ ‹_›
  · exact .addReplyNodes _ _ ‹_›
  · exact .addReplyNodes6 _ _ ‹_›
  · exact .finish _ ‹_›
  · exact .stopAgain ‹_›
  · exact .stop (Bool.eq_false_iff.mpr ‹_›)
  · exact .stopperDone ‹_› (eq_of_beq ‹_›)
  · exact .stopperSleep ‹_› (mt beq_of_eq ‹_›)
  · exact .stopperWake _ ‹_› ‹_›

theorem Trav.exec_cons {c : TravCfg} {s : Trav} {e : TravEv} {es : List TravEv} {s' : Trav} :
    Trav.exec c s (e :: es) = some s' ↔ ∃ s1, s.step c e = some s1 ∧ Trav.exec c s1 es = some s' := by
  simp only [Trav.exec]
  cases s.step c e <;> simp

theorem Trav.exec_induct {c : TravCfg} {P : Trav → Prop} {evs : List TravEv} {s0 s : Trav}
    (h : Trav.exec c s0 evs = some s) (h0 : P s0)
    (hstep : ∀ e ∈ evs, ∀ s s', P s → Trav.Step c s e s' → P s') : P s := by
  induction evs generalizing s0 with
  | nil => cases h; exact h0
  | cons e es ih =>
    obtain ⟨s1, h1, h2⟩ := Trav.exec_cons.mp h
    exact ih h2 (hstep e List.mem_cons_self s0 s1 h0 (.of_step h1))
      (fun e' he' => hstep e' (List.mem_cons_of_mem _ he'))

end Dht
