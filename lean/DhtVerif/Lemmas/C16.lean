/- What `announceClosest` sends, and `announceAllowed` read as a proposition. -/
import DhtVerif.Model.Announce
import DhtVerif.Lemmas.C18Knn
namespace Dht

theorem mem_announceClosest (closest : List KElem) (o : AnnounceOut) :
    o ∈ announceClosest closest ↔ ∃ e ∈ closest, e.addr = o.dst ∧ e.data = some o.token := by
  simp only [announceClosest, List.mem_filterMap, Option.map_eq_some_iff]
  refine exists_congr fun e => and_congr_right fun _ => ⟨?_, fun ⟨ha, hd⟩ => ⟨_, hd, by rw [ha]⟩⟩
  rintro ⟨t, hd, rfl⟩
  exact ⟨rfl, hd⟩

theorem announceClosest_length_le (closest : List KElem) :
    (announceClosest closest).length ≤ closest.length :=
  List.length_filterMap_le _ _

/-- The eligible set of `announceAllowed`. -/
def announceElig (nodeFilter : Cand → Bool) (resps : List GpResp) : List KElem :=
  List.foldl KNN.upsert [] ((resps.filter (fun r => r.token.isSome && nodeFilter ⟨some r.id, r.addr⟩)).map GpResp.elem)

theorem mem_announceElig (nf : Cand → Bool) (resps : List GpResp) (e : KElem)
    (h : e ∈ announceElig nf resps) :
    ∃ r ∈ resps, r.elem = e ∧ r.token.isSome = true ∧ nf ⟨some r.id, r.addr⟩ = true := by
  rcases KNN.mem_foldl_upsert _ _ _ h with h | h
  · simp at h
  · obtain ⟨r, hr, rfl⟩ := List.mem_map.mp h
    rw [List.mem_filter, Bool.and_eq_true] at hr
    exact ⟨r, hr.1, rfl, hr.2.1, hr.2.2⟩

theorem announceAllowed_iff (target : Id) (k : Nat) (nf : Cand → Bool) (resps : List GpResp) (outs : List AnnounceOut) :
    announceAllowed target k nf resps outs = true ↔
      (∀ o ∈ outs, ∃ e ∈ announceElig nf resps, o.dst = e.addr ∧ some o.token = e.data) ∧
      (outs.map (·.dst.strKey)).eraseDups.length = outs.length ∧
      outs.length = min k (announceElig nf resps).length ∧
      ∀ e ∈ announceElig nf resps,
        let chosen := (announceElig nf resps).filter fun e => outs.any fun o => o.dst == e.addr && some o.token == e.data
        e ∈ chosen ∨ ∀ m ∈ chosen, m.dist target ≤ e.dist target := by
  unfold announceAllowed announceElig
  simp only [Bool.and_eq_true, List.all_eq_true, List.any_eq_true, beq_iff_eq, Bool.or_eq_true, List.contains_iff_mem,
    decide_eq_true_eq, and_assoc]

theorem announceClosest_dsts_of_all_some (closest : List KElem)
    (h : ∀ e ∈ closest, e.data.isSome = true) :
    (announceClosest closest).map (·.dst) = closest.map (·.addr) := by
  unfold announceClosest
  induction closest with
  | nil => rfl
  | cons e es ih =>
    obtain ⟨t, ht⟩ := Option.isSome_iff_exists.mp (h e (List.mem_cons_self ..))
    rw [List.filterMap_cons]
    simp only [ht, Option.map_some, List.map_cons]
    rw [ih (fun x hx => h x (List.mem_cons_of_mem _ hx))]

end Dht
