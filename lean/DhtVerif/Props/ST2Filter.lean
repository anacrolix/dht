/-
T1 by translation: the regenerated decision expression of the function, interpreted with an atom table (source
text |-> meaning on model values, unknown text |-> none), equals the model function for all arguments; with negative
checks on hand-mutated trees.
-/
import DhtVerif.Lemmas.SourceTrees
import DhtVerif.Props.STCommon
import DhtVerif.Model.SourceTrees2
import DhtVerif.Model.Server
namespace Dht
open Gen (DExp SExp)

/-! ### server.go validNodeAddr and Server.TraversalNodeFilter -/

def vnaLetsExpected : List String := ["$1 := addr.(*net.UDPAddr)", "$2 := $1.IP.To4()"]

/-- `$1` (`ua` in the source) is the UDP address (IP bytes, port), `$2` (`ip4`) its `To4()`. -/
def vnaCond (ip : List UInt8) (port : Nat) : String → Option Bool
  | "$1.Port == 0" => some (port == 0)
  | "$2 != nil && $2[0] == 0" => some (
    match to4 ip with
    | some v4 => v4.getD 0 0 == 0
    | none => false)
  | _ => none

/-- `validNodeAddr` in server.go is `Dht.validNodeAddr`. -/
theorem SourceTrees.validNodeAddr (ip : List UInt8) (port : Nat) :
    Gen.treeValidNodeAddrLets = vnaLetsExpected ∧
    DExp.evalWith (vnaCond ip port) boolRet Gen.treeValidNodeAddr = some (Dht.validNodeAddr ip port) := by
  refine ⟨rfl, ?_⟩
  unfold boolRet
  simp only [Gen.treeValidNodeAddr, DExp.evalWith_ite, DExp.evalWith_ret, vnaCond, Option.bind_some,
    Dht.validNodeAddr, ← apply_ite some]
  cases to4 ip <;> simp only [Bool.false_eq_true, if_false, Bool.if_false_left, Bool.and_true, Bool.decide_eq_true]

/-- Negative check: the port test dropped (known atoms): port 0 is accepted. -/
example : DExp.evalWith (vnaCond [1, 2, 3, 4] 0) boolRet
      (DExp.ite "$2 != nil && $2[0] == 0" (DExp.ret "false") (DExp.ret "true")) = some true ∧
    validNodeAddr [1, 2, 3, 4] 0 = false := by
  constructor <;> decide +kernel

/-- Negative check: `||` for `&&` in the second test: unknown atom, no value for any non-zero port. -/
example (ip : List UInt8) (port : Nat) (h : (port == 0) = false) :
    DExp.evalWith (vnaCond ip port) boolRet
      (DExp.ite "$1.Port == 0" (DExp.ret "false") (DExp.ite "$2 != nil || $2[0] == 0" (DExp.ret "false") (DExp.ret "true"))) = none := by
  simp [DExp.evalWith_ite, vnaCond, h]

/-- `node.Addr.UDP()` / `node.Addr.IP()` are the candidate's IP bytes and port; `validNodeAddr` is read from its
own source; `node.Id.Value` has a value only when `node.Id.Ok`; `NodeIdSecure` is the model's `nodeIdSecure`
(where Go would index out of range: not secure, as in `Node.isSecure`). -/
def tnfCond (c : SrvCfg) (n : Cand) : String → Option Bool
  | "!validNodeAddr(node.Addr.UDP())" =>
    (DExp.evalWith (vnaCond n.addr.ip n.addr.port) boolRet Gen.treeValidNodeAddr).map (!·)
  | "s.ipBlocked(node.Addr.IP())" => some (c.blocked n.addr.ip)
  | "!node.Id.Ok" => some (!n.id.isSome)
  | _ => none

def tnfRet (c : SrvCfg) (n : Cand) : String → Option Bool
  | "true" => some true
  | "false" => some false
  | "s.config.NoSecurity || NodeIdSecure(node.Id.Value.AsByteArray(), node.Addr.IP())" =>
    n.id.map (fun id => c.tbl.noSecurity || (nodeIdSecure id n.addr.ip).getD false)
  | _ => none

/-- `Server.TraversalNodeFilter` in server.go is `Dht.traversalNodeFilter`. -/
theorem SourceTrees.traversalNodeFilter (c : SrvCfg) (n : Cand) :
    DExp.evalWith (tnfCond c n) (tnfRet c n) Gen.treeTraversalNodeFilter = some (Dht.traversalNodeFilter c n) := by
  simp only [Gen.treeTraversalNodeFilter, DExp.evalWith_ite, DExp.evalWith_ret, tnfCond, tnfRet,
    (SourceTrees.validNodeAddr _ _).2, Option.map_some, Option.bind_some, Dht.traversalNodeFilter]
  cases n.id <;> simp [← apply_ite some]

/-- What the filter means for the model's table policy: a candidate with a known ID passes iff its address is
valid, not blocked, and the node it names passes the security test of `isBad` … -/
theorem traversalNodeFilter_some (c : SrvCfg) (id : Id) (a : Addr) :
    traversalNodeFilter c ⟨some id, a⟩ =
      (validNodeAddr a.ip a.port && !c.blocked a.ip &&
        (c.tbl.noSecurity || Node.isSecure { id := id, addr := ⟨a.ip, a.port⟩ })) := by
  simp only [traversalNodeFilter, Node.isSecure, Bool.if_false_left, Bool.decide_eq_true, Bool.not_not, Bool.and_assoc]

/-- … so a candidate that passes, is not the server itself and has a non-zero ID is not a bad node when it
enters the table (the four tests of `nodeErr`; a new entry has not failed a ping). -/
theorem traversalNodeFilter_notBad (c : SrvCfg) (id : Id) (a : Addr)
    (h : traversalNodeFilter c ⟨some id, a⟩ = true) (hroot : (id == c.tbl.root) = false) (hz : id.isZero = false) :
    isBad c.tbl { id := id, addr := ⟨a.ip, a.port⟩ } = false := by
  rw [traversalNodeFilter_some] at h
  simp only [Bool.and_eq_true] at h
  simp [isBad, hroot, hz, h.2]

/-- … and a candidate without ID passes iff its address is valid and not blocked. -/
theorem traversalNodeFilter_none (c : SrvCfg) (a : Addr) :
    traversalNodeFilter c ⟨none, a⟩ = (validNodeAddr a.ip a.port && !c.blocked a.ip) := by
  simp only [traversalNodeFilter, Bool.if_false_left, Bool.decide_eq_true, Bool.not_not, Bool.and_true]

/-- The filter honours the blocklist: a candidate at a blocked IP never passes. -/
theorem traversalNodeFilter_blocked (c : SrvCfg) (n : Cand) (h : c.blocked n.addr.ip = true) :
    traversalNodeFilter c n = false := by
  simp only [traversalNodeFilter, h, if_true, ite_self]

/-- The filter enforces BEP 42 unless `NoSecurity`: a candidate with a known ID that passes has an ID that
`nodeIdSecure` accepts for its address. -/
theorem traversalNodeFilter_secure (c : SrvCfg) (id : Id) (a : Addr) (hs : c.tbl.noSecurity = false)
    (h : traversalNodeFilter c ⟨some id, a⟩ = true) : nodeIdSecure id a.ip = some true := by
  rw [traversalNodeFilter_some] at h
  simp only [Bool.and_eq_true, hs, Bool.false_or, Node.isSecure] at h
  cases hn : nodeIdSecure id a.ip with
  | none => simp [hn] at h
  | some b => simpa [hn] using h.2

/-- Negative check with known atoms only: the blocklist test dropped. A blocked, otherwise acceptable
candidate passes the changed tree. -/
def treeTraversalNodeFilterMutNoBlock : DExp := DExp.ite "!validNodeAddr(node.Addr.UDP())" (DExp.ret "false") (DExp.ite "!node.Id.Ok" (DExp.ret "true") (DExp.ret "s.config.NoSecurity || NodeIdSecure(node.Id.Value.AsByteArray(), node.Addr.IP())"))

theorem SourceTrees.traversalNodeFilter_mutNoBlock_wrong (c : SrvCfg) (a : Addr)
    (hv : Dht.validNodeAddr a.ip a.port = true) (hb : c.blocked a.ip = true) :
    DExp.evalWith (tnfCond c ⟨none, a⟩) (tnfRet c ⟨none, a⟩) treeTraversalNodeFilterMutNoBlock = some true ∧
    Dht.traversalNodeFilter c ⟨none, a⟩ = false := by
  simp [treeTraversalNodeFilterMutNoBlock, DExp.evalWith_ite, DExp.evalWith_ret, tnfCond,
    (SourceTrees.validNodeAddr _ _).2, hv, hb, tnfRet, Dht.traversalNodeFilter]

example : ¬ ∀ (c : SrvCfg) (n : Cand),
    DExp.evalWith (tnfCond c n) (tnfRet c n) treeTraversalNodeFilterMutNoBlock = some (traversalNodeFilter c n) := by
  intro h
  have h' := h { tbl := { root := [1] }, blocked := fun _ => true } ⟨none, ⟨1, [1, 2, 3, 4], 5⟩⟩
  have w := SourceTrees.traversalNodeFilter_mutNoBlock_wrong { tbl := { root := [1] }, blocked := fun _ => true }
    ⟨1, [1, 2, 3, 4], 5⟩ (by decide +kernel) rfl
  rw [w.1, w.2] at h'
  exact absurd h' (by simp)

/-- Negative check: `&&` for `||` in the security test. Unknown result: no value for a valid, unblocked
candidate with a known ID. -/
example (c : SrvCfg) (id : Id) (a : Addr) (hv : validNodeAddr a.ip a.port = true) (hb : c.blocked a.ip = false) :
    DExp.evalWith (tnfCond c ⟨some id, a⟩) (tnfRet c ⟨some id, a⟩)
      (DExp.ite "!validNodeAddr(node.Addr.UDP())" (DExp.ret "false") (DExp.ite "s.ipBlocked(node.Addr.IP())" (DExp.ret "false") (DExp.ite "!node.Id.Ok" (DExp.ret "true") (DExp.ret "s.config.NoSecurity && NodeIdSecure(node.Id.Value.AsByteArray(), node.Addr.IP())")))) = none := by
  simp [DExp.evalWith_ite, DExp.evalWith_ret, tnfCond, (SourceTrees.validNodeAddr _ _).2, hv, hb, tnfRet]


theorem SourceTrees.traversalNodeFilter_no_skipped_statements : Gen.treeTraversalNodeFilterLets = [] := by decide

end Dht
