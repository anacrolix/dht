/- T1 by translation (DESIGN.md 12.3a): `shouldReturnNodes` / `shouldReturnNodes6` (BEP 32 gating). -/
import DhtVerif.Lemmas.SourceTrees
import DhtVerif.Model.Server
namespace Dht
open Gen (DExp)

def srnCond (want : List (List UInt8)) (_srcIp : List UInt8) : String → Option Bool
  | "len(queryWants) != 0" => some (want.length != 0)
  | _ => none

def srnRet (want : List (List UInt8)) (srcIp : List UInt8) : String → Option Bool
  | "wantsContain(queryWants, krpc.WantNodes)" => some (wantsContain want "n4")
  | "wantsContain(queryWants, krpc.WantNodes6)" => some (wantsContain want "n6")
  | "querySource.To4() != nil" => some (to4 srcIp).isSome
  | "querySource.To4() == nil" => some (to4 srcIp).isNone
  | _ => none

theorem SourceTrees.shouldReturnNodes (want : List (List UInt8)) (srcIp : List UInt8) :
    DExp.evalWith (srnCond want srcIp) (srnRet want srcIp) Gen.treeShouldReturnNodes = some (shouldReturnNodes want srcIp) ∧
    DExp.evalWith (srnCond want srcIp) (srnRet want srcIp) Gen.treeShouldReturnNodes6 = some (shouldReturnNodes6 want srcIp) := by
  simp only [Gen.treeShouldReturnNodes, Gen.treeShouldReturnNodes6, DExp.evalWith_ite, DExp.evalWith_ret, srnCond,
    srnRet, Option.bind_some, Dht.shouldReturnNodes, Dht.shouldReturnNodes6, ← apply_ite some, and_self]

/-- Negative check: the length test negated (`!=` → `==`): unknown atom, no value for any argument. -/
def treeShouldReturnNodesMutLen : DExp := DExp.ite "len(queryWants) == 0" (DExp.ret "wantsContain(queryWants, krpc.WantNodes)") (DExp.ret "querySource.To4() != nil")

example (want : List (List UInt8)) (srcIp : List UInt8) :
    DExp.evalWith (srnCond want srcIp) (srnRet want srcIp) treeShouldReturnNodesMutLen = none := by
  simp [treeShouldReturnNodesMutLen, DExp.evalWith_ite, srnCond]

/-- Negative check: `shouldReturnNodes` with the fallback of `shouldReturnNodes6` (`To4() == nil`): every atom is
known, the tree evaluates, but not to the model's function (no `want`, IPv4 source). -/
def treeShouldReturnNodesMutTo4 : DExp := DExp.ite "len(queryWants) != 0" (DExp.ret "wantsContain(queryWants, krpc.WantNodes)") (DExp.ret "querySource.To4() == nil")

example :
    DExp.evalWith (srnCond [] [1, 2, 3, 4]) (srnRet [] [1, 2, 3, 4]) treeShouldReturnNodesMutTo4 = some false ∧
    shouldReturnNodes [] [1, 2, 3, 4] = true := by
  constructor
  · simp [treeShouldReturnNodesMutTo4, DExp.evalWith_ite, DExp.evalWith_ret, srnCond, srnRet, to4]
  · decide

example : ¬ ∀ (want : List (List UInt8)) (srcIp : List UInt8),
    DExp.evalWith (srnCond want srcIp) (srnRet want srcIp) treeShouldReturnNodesMutTo4 = some (shouldReturnNodes want srcIp) := by
  intro h
  have h' := h [] [1, 2, 3, 4]
  simp [treeShouldReturnNodesMutTo4, DExp.evalWith_ite, DExp.evalWith_ret, srnCond, srnRet, to4, shouldReturnNodes] at h'

end Dht
