/-
C18 — XOR metric, bucket index and closeness orders obey their laws.

All statements are about the executable model in DhtVerif/Model, for all IDs /
candidates / push histories, with no bound on anything.
-/
import DhtVerif.Model.Containers
import DhtVerif.Lemmas.C18
import DhtVerif.Props.ST2Closer
namespace Dht

theorem C18.dist_symm (a b : Id) : Id.distance a b = Id.distance b a := by
  exact Id.xor_comm a b

theorem C18.dist_zero_iff (a b : Id) (h : a.length = b.length) :
    (Id.distance a b).isZero = true ↔ a = b := by
  exact Id.xor_isZero_iff a b h

/-- The byte-wise comparison `T.Cmp` orders IDs as unsigned big-endian integers. -/
theorem C18.cmp_eq_compare_toNat (a b : Id) (h : a.length = b.length) :
    Id.cmp a b = compare a.toNat b.toNat := by
  exact Id.cmp_eq_compare_toNat a b h

theorem C18.toNat_xor (a b : Id) (h : a.length = b.length) :
    (Id.xor a b).toNat = a.toNat ^^^ b.toNat := by
  exact Id.toNat_xor a b h

theorem C18.dist_injective (t a b : Id) (ha : a.length = t.length) (hb : b.length = t.length)
    (h : Id.distance a t = Id.distance b t) : a = b := by
  exact Id.xor_right_cancel t a b ha hb h

/-- The bucket index of an ID is the length of the bit prefix it shares with
the root: all earlier bits agree and bit `i` differs. -/
theorem C18.bucketIndex_is_shared_prefix_len (root id : Id)
    (hr : root.length = 20) (hi : id.length = 20) (hne : id ≠ root) :
    ∃ i, bucketIndex root id = some i ∧ i < 160 ∧
      (∀ j, j < i → id.getBit j = root.getBit j) ∧ id.getBit i ≠ root.getBit i := by
  exact bucketIndex_spec root id hr hi hne

/-- The only ID without a bucket is the root (the Go code panics there). -/
theorem C18.bucketIndex_none_iff (root id : Id) : bucketIndex root id = none ↔ id = root :=
  bucketIndex_eq_none_iff root id

/-- A random ID drawn for bucket `i` lands in bucket `i`, whatever the draw. -/
theorem C18.randomIdInBucket_lands (rnd root : Id) (i : Nat)
    (hr : root.length = 20) (hx : rnd.length = 20) (hi : i < 160) :
    (randomIdInBucket rnd root i).length = 20 ∧
    bucketIndex root (randomIdInBucket rnd root i) = some i := by
  have hl : (randomIdInBucket rnd root i).length = 20 := (length_randomIdInBucket rnd root i).trans hx
  have hb := getBit_randomIdInBucket rnd root i (hx ▸ hi)
  refine ⟨hl, bucketIndex_of_prefix root _ i hr hl (fun j hj => ?_) ?_⟩
  · rw [hb, if_neg (Nat.ne_of_lt hj), if_pos hj]
  · rw [hb, if_pos rfl]
    cases root.getBit i <;> simp

/-! ## closer-than is a strict total order ranking known IDs by distance first -/

theorem C18.closerThan_irrefl (t : Id) (c : Cand) : closerThan t c c = false := by
  exact _root_.Dht.closerThan_irrefl t c

theorem C18.closerThan_asymm (t : Id) (l r : Cand) :
    closerThan t l r = true → closerThan t r l = false := by
  exact _root_.Dht.closerThan_asymm t l r

theorem C18.closerThan_trans (t : Id) (a b c : Cand) :
    closerThan t a b = true → closerThan t b c = true → closerThan t a c = true := by
  exact _root_.Dht.closerThan_trans t a b c

theorem C18.closerThan_total (t : Id) (l r : Cand) (ht : t.length = 20)
    (hl : l.ok) (hr : r.ok) (hne : l ≠ r) :
    closerThan t l r = true ∨ closerThan t r l = true := by
  exact _root_.Dht.closerThan_total t l r ht hl hr hne

theorem C18.closerThan_known_before_unknown (t : Id) (l r : Cand) (i : Id)
    (hl : l.id = some i) (hr : r.id = none) : closerThan t l r = true := by
  exact closerThan_some_none t l r i hl hr

theorem C18.closerThan_by_distance (t : Id) (l r : Cand) (li ri : Id)
    (hl : l.id = some li) (hr : r.id = some ri)
    (hlen : li.length = t.length) (hlen' : ri.length = t.length)
    (hd : (Id.distance li t).toNat < (Id.distance ri t).toNat) :
    closerThan t l r = true := by
  exact _root_.Dht.closerThan_by_distance t l r li ri hl hr hlen hlen' hd

def SSet.sorted (t : Id) : List Cand → Prop
  | [] => True
  | [_] => True
  | a :: b :: rest => closerThan t a b = true ∧ SSet.sorted t (b :: rest)

def SSet.okSet (t : Id) (xs : List Cand) : Prop := SSet.sorted t xs ∧ ∀ c ∈ xs, c.ok

theorem SSet.sorted_iff_pairwise (t : Id) (xs : List Cand) :
    SSet.sorted t xs ↔ xs.Pairwise (fun a b => closerThan t a b = true) := by
  fun_induction SSet.sorted t xs with
  | case1 => simp
  | case2 => simp
  | case3 a b rest ih => rw [ih, pairwise_cons_cons_iff (closerThan_trans t)]

theorem C18.sset_add_sorted (t : Id) (ht : t.length = 20) (xs : List Cand) (c : Cand)
    (h : SSet.okSet t xs) (hc : c.ok) : SSet.okSet t (SSet.add t xs c) := by
  have _ := ht
  obtain ⟨hs, hok⟩ := h
  rw [SSet.sorted_iff_pairwise] at hs
  refine ⟨(SSet.sorted_iff_pairwise t _).mpr (SSet.add_pw t xs c hs), ?_⟩
  intro x hx
  rcases SSet.mem_add_imp t xs c x hx with rfl | hx
  · exact hc
  · exact hok x hx

theorem C18.sset_add_mem (t : Id) (ht : t.length = 20) (xs : List Cand) (c x : Cand)
    (h : SSet.okSet t xs) (hc : c.ok) :
    x ∈ SSet.add t xs c ↔ x = c ∨ x ∈ xs := by
  exact SSet.mem_add t ht xs c x h.2 hc

theorem C18.sset_delete_sorted (t : Id) (xs : List Cand) (c : Cand)
    (h : SSet.okSet t xs) : SSet.okSet t (SSet.delete t xs c) := by
  obtain ⟨hs, hok⟩ := h
  rw [SSet.sorted_iff_pairwise] at hs
  have hsub := SSet.delete_sublist t xs c
  exact ⟨(SSet.sorted_iff_pairwise t _).mpr (hs.sublist hsub), fun x hx => hok x (hsub.subset hx)⟩

theorem C18.sset_delete_mem (t : Id) (ht : t.length = 20) (xs : List Cand) (c x : Cand)
    (h : SSet.okSet t xs) (hc : c.ok) :
    x ∈ SSet.delete t xs c ↔ x ∈ xs ∧ x ≠ c := by
  obtain ⟨hs, hok⟩ := h
  rw [SSet.sorted_iff_pairwise] at hs
  exact SSet.mem_delete t ht xs c x hok hc hs

/-- `Next` returns the element closest to the target: nothing in the set is closer. -/
theorem C18.sset_next_is_min (t : Id) (xs : List Cand) (m : Cand)
    (h : SSet.okSet t xs) (hm : SSet.next xs = some m) :
    ∀ x ∈ xs, x ≠ m → closerThan t m x = true := by
  obtain ⟨hs, _⟩ := h
  rw [SSet.sorted_iff_pairwise] at hs
  cases xs with
  | nil => simp [SSet.next] at hm
  | cons y ys =>
    simp only [SSet.next, List.head?_cons, Option.some.injEq] at hm
    subst hm
    intro x hx hne
    rcases List.mem_cons.mp hx with h | h
    · exact absurd h hne
    · exact (List.pairwise_cons.mp hs).1 x h

/-! ## K-nearest container: for every push history, exactly the K nearest are retained -/

/-- The full inductive invariant behind `C18.knn_retains_k_nearest` (it adds: no two
elements of the container, or of the latest-push list, share a key). -/
theorem C18.knn_invariant (t : Id) (k : Nat) (hist s : List KElem)
    (h : KNN.Reach t k hist s) : KNN.Inv t k (KNN.latest hist) s :=
  h.inv

/-- After any push history the container holds `min k (#distinct keys)`
elements, in distance order, each a pushed element with its latest data, and
every pushed key it does not hold is at least as far from the target as every
element it holds. -/
theorem C18.knn_retains_k_nearest (t : Id) (k : Nat) (hist s : List KElem)
    (h : KNN.Reach t k hist s) :
    s.length = min k (KNN.latest hist).length ∧
    KNN.sortedBy t s = true ∧
    (∀ m ∈ s, m ∈ KNN.latest hist) ∧
    (∀ p ∈ KNN.latest hist, p ∉ s → ∀ m ∈ s, m.dist t ≤ p.dist t) := by
  have hinv := C18.knn_invariant t k hist s h
  exact ⟨hinv.len, (KNN.sortedBy_iff t s).mpr hinv.sorted, hinv.sub, hinv.far⟩

/-- The deterministic instance used by the traversal model is one of the allowed results. -/
theorem C18.knn_push_allowed (t : Id) (k : Nat) (s : List KElem) (e : KElem)
    (hs : KNN.sortedBy t s = true) (hn : KNN.nodupKeys s = true) :
    KNN.pushAllowed t k s e (KNN.push t k s e) = true := by
  exact KNN.push_allowed t k s e ((KNN.sortedBy_iff t s).mp hs) ((KNN.nodupKeys_iff s).mp hn)

/-! ## Non-vacuity -/

example : KNN.Reach [0,0] 1 [⟨[0,1], ⟨1,[1,2,3,4],5⟩, none⟩, ⟨[0,2], ⟨1,[1,2,3,4],6⟩, none⟩]
    [⟨[0,1], ⟨1,[1,2,3,4],5⟩, none⟩] :=
  KNN.Reach.push (hist := [⟨[0,1], ⟨1,[1,2,3,4],5⟩, none⟩]) (s := [⟨[0,1], ⟨1,[1,2,3,4],5⟩, none⟩])
    ⟨[0,2], ⟨1,[1,2,3,4],6⟩, none⟩ [⟨[0,1], ⟨1,[1,2,3,4],5⟩, none⟩]
    (KNN.Reach.push (hist := []) (s := []) ⟨[0,1], ⟨1,[1,2,3,4],5⟩, none⟩
      [⟨[0,1], ⟨1,[1,2,3,4],5⟩, none⟩] KNN.Reach.init (by decide))
    (by decide)

/-! ## T1 by translation: the orders are the source's -/

/-- `AddrMaybeId.CloserThan` in types/addr-maybe-id.go (its statement tree, interpreted with the atom table of
Props/ST2Closer over the `multiless.Computation` it threads) IS the model's `closerThan`, for all candidates
and whatever the initial value of the local. -/
theorem C18.closerThan_is_the_source (target : Id) (l r : Cand) (ml0 : ML) :
    SExp.evalWith (ctStep target l r) (ctCond l r) ctRet Gen.stmCloserThan ml0 = some (closerThan target l r) :=
  SourceTrees.closerThan target l r ml0

/-- `closerThanTarget.Compare` in containers (with `CloserThan` read from its own source) IS `candCompare`. -/
theorem C18.candCompare_is_the_source (target : Id) (l r : Cand) :
    DExp.evalWith (cttCond target l r) cmpRet Gen.treeCloserThanTargetCompare = some (candCompare target l r) :=
  SourceTrees.closerThanTargetCompare target l r

/-- `lessComparer[K].Compare` in k-nearest-nodes IS `lessCompare`, for any `less`; `candCompare` is
`lessCompare` of `closerThan`, and `KNN.insertSorted` inserts before the first element that compares greater
under `lessCompare (KNN.lessDet target)`. -/
theorem C18.lessComparer_is_the_source {α : Type} (less : α → α → Bool) (i j : α) (target : Id) (l r : Cand)
    (x e : KElem) (xs : List KElem) :
    DExp.evalWith (lcCond less i j) cmpRet Gen.treeLessComparerCompare = some (lessCompare less i j) ∧
    candCompare target l r = lessCompare (closerThan target) l r ∧
    KNN.insertSorted target (x :: xs) e =
      (if x.sameKey e then e :: xs
       else if lessCompare (KNN.lessDet target) e x == .lt then e :: (x :: xs).filter (fun y => !y.sameKey e)
       else x :: KNN.insertSorted target xs e) :=
  ⟨SourceTrees.lessComparerCompare less i j, candCompare_eq_lessCompare target l r,
   KNN.insertSorted_cons_lessCompare target x xs e⟩

end Dht
