/- The inbound step of the server model, layer by layer: the method switch `dispatch` (one equation per
method; facts about every method by `fun_cases`), `applyEffects`, and what `handleQuery`, `processMsg`
and `serveDatagram` amount to. -/
import DhtVerif.Model.Server
import DhtVerif.Lemmas.Basic
namespace Dht

theorem str_ping : str "ping" = [112, 105, 110, 103] := by decide +kernel
theorem str_get_peers : str "get_peers" = [103, 101, 116, 95, 112, 101, 101, 114, 115] := by decide +kernel
theorem str_find_node : str "find_node" = [102, 105, 110, 100, 95, 110, 111, 100, 101] := by decide +kernel
theorem str_announce_peer :
    str "announce_peer" = [97, 110, 110, 111, 117, 110, 99, 101, 95, 112, 101, 101, 114] := by decide +kernel
theorem str_put : str "put" = [112, 117, 116] := by decide +kernel
theorem str_get : str "get" = [103, 101, 116] := by decide +kernel
theorem str_q : str "q" = [113] := by decide +kernel
theorem str_r : str "r" = [114] := by decide +kernel
theorem str_q_ne_r : str "q" ≠ str "r" := by decide +kernel

/-- Each method name differs from those tested before it in the switch. -/
theorem methods_distinct :
    str "get_peers" ≠ str "ping" ∧
    (str "find_node" ≠ str "ping" ∧ str "find_node" ≠ str "get_peers") ∧
    (str "announce_peer" ≠ str "ping" ∧ str "announce_peer" ≠ str "get_peers" ∧
      str "announce_peer" ≠ str "find_node") ∧
    (str "put" ≠ str "ping" ∧ str "put" ≠ str "get_peers" ∧ str "put" ≠ str "find_node" ∧
      str "put" ≠ str "announce_peer") ∧
    (str "get" ≠ str "ping" ∧ str "get" ≠ str "get_peers" ∧ str "get" ≠ str "find_node" ∧
      str "get" ≠ str "announce_peer" ∧ str "get" ≠ str "put") := by decide +kernel

/- `dispatch`, one method at a time. Each proof selects the branch with `↓reduceIte` (as a pre-procedure
it never visits the branches not taken; `if_false`/`if_true` normalise them first, at several times the cost). -/

theorem dispatch_ping {c : SrvCfg} {mk : TokenFn} {s : Srv} {src : NAddr} {m : QMsg} {env : Env}
    (hq : m.q = str "ping") : dispatch c mk s src m env = ([mkReply c src m.t {}], []) := by
  simp only [dispatch, hq, beq_self_eq_true, ↓reduceIte]

def getPeersRet (c : SrvCfg) (mk : TokenFn) (s : Srv) (src : NAddr) (a : QArgs) : Ret :=
  let r : Ret := if c.hasPeerStore then
      { values := filterPeers src.ip a.want (peersFor s a.infoHash),
        token := some (createToken c mk s.ts.now src.ip) }
    else {}
  if r.values.isEmpty then setReturnNodes r a a.infoHash src.ip else r

theorem dispatch_get_peers {c : SrvCfg} {mk : TokenFn} {s : Srv} {src : NAddr} {m : QMsg} {env : Env} {a : QArgs}
    (hq : m.q = str "get_peers") (ha : m.a = some a) :
    dispatch c mk s src m env = ([mkReply c src m.t (getPeersRet c mk s src a)], []) := by
  simp only [dispatch, hq, ha, beq_iff_eq, methods_distinct, ↓reduceIte]
  rfl

theorem dispatch_find_node {c : SrvCfg} {mk : TokenFn} {s : Srv} {src : NAddr} {m : QMsg} {env : Env} {a : QArgs}
    (hq : m.q = str "find_node") (ha : m.a = some a) :
    dispatch c mk s src m env = ([mkReply c src m.t (setReturnNodes {} a a.target src.ip)], []) := by
  simp only [dispatch, hq, ha, beq_iff_eq, methods_distinct, ↓reduceIte]

/-- The port of the endpoint an accepted announce stores (the IP is the source's): the announced
port, or the UDP source port when `implied_port` is set. -/
def announcedPort (src : NAddr) (a : QArgs) : Int :=
  if a.impliedPort then (src.port : Int) else a.port.getD 0

def announceEffs (c : SrvCfg) (src : NAddr) (a : QArgs) : List Effect :=
  (if c.hasCallback then
    [Effect.announceCb a.infoHash src.ip (announcedPort src a) (a.impliedPort || a.port.isSome)] else []) ++
  (if c.hasPeerStore then [Effect.addPeer ⟨a.infoHash, src.ip, announcedPort src a⟩] else [])

theorem dispatch_announce_peer {c : SrvCfg} {mk : TokenFn} {s : Srv} {src : NAddr} {m : QMsg} {env : Env} {a : QArgs}
    (hq : m.q = str "announce_peer") (ha : m.a = some a) :
    dispatch c mk s src m env =
      if validToken c mk s.ts.now src.ip a.token then ([mkReply c src m.t {}], announceEffs c src a)
      else ([], []) := by
  simp only [dispatch, hq, ha, beq_iff_eq, methods_distinct, ↓reduceIte]
  rcases a with ⟨_, _, _, _, port, implied, _, _⟩
  cases validToken .. <;> cases implied <;> cases port <;> rfl

theorem dispatch_put {c : SrvCfg} {mk : TokenFn} {s : Srv} {src : NAddr} {m : QMsg} {env : Env} {a : QArgs}
    (hq : m.q = str "put") (ha : m.a = some a) :
    dispatch c mk s src m env =
      if validToken c mk s.ts.now src.ip a.token then
        match a.seq with
        | none => ([mkError src m.t Gen.errorCodeProtocolError], [])
        | some _ =>
          match env.putErr with
          | none => ([mkReply c src m.t {}], [.storePut])
          | some (some code) => ([mkError src m.t code], [])
          | some none => ([mkError src m.t Gen.errorCodeMethodUnknown], [])
      else ([], []) := by
  simp only [dispatch, hq, ha, beq_iff_eq, methods_distinct, ↓reduceIte]
  cases validToken .. <;> rfl

/-- The reply record of `get` before the store answer is merged. -/
def getRet (c : SrvCfg) (mk : TokenFn) (s : Srv) (src : NAddr) (a : QArgs) : Ret :=
  { setReturnNodes {} a a.target src.ip with token := some (createToken c mk s.ts.now src.ip) }

theorem dispatch_get {c : SrvCfg} {mk : TokenFn} {s : Srv} {src : NAddr} {m : QMsg} {env : Env} {a : QArgs}
    (hq : m.q = str "get") (ha : m.a = some a) :
    dispatch c mk s src m env =
      match env.getErr with
      | some code => ([mkError src m.t code], [])
      | none =>
        match env.getRes with
        | none => ([mkReply c src m.t (getRet c mk s src a)], [])
        | some none => ([mkError src m.t Gen.errorCodeGenericError], [])
        | some (some (seq, _)) =>
          match a.seq with
          | some asked =>
            if seq ≤ asked then ([mkReply c src m.t { getRet c mk s src a with seq := some seq }], [])
            else ([mkReply c src m.t { getRet c mk s src a with seq := some seq, hasV := true }], [])
          | none => ([mkReply c src m.t { getRet c mk s src a with seq := some seq, hasV := true }], []) := by
  simp only [dispatch, hq, ha, beq_iff_eq, methods_distinct, ↓reduceIte]
  rfl

def knownMethods : List (List UInt8) :=
  [str "ping", str "get_peers", str "find_node", str "announce_peer", str "put", str "get"]

theorem dispatch_no_args {c : SrvCfg} {mk : TokenFn} {s : Srv} {src : NAddr} {m : QMsg} {env : Env}
    (hq : m.q ∈ knownMethods) (hq' : m.q ≠ str "ping") (ha : m.a = none) :
    dispatch c mk s src m env = ([mkError src m.t Gen.errorCodeProtocolError], []) := by
  simp only [knownMethods, List.mem_cons, List.not_mem_nil, or_false, hq', false_or] at hq
  rcases hq with h | h | h | h | h <;> simp only [dispatch, h, ha, beq_iff_eq, methods_distinct, ↓reduceIte]

theorem dispatch_unknown {c : SrvCfg} {mk : TokenFn} {s : Srv} {src : NAddr} {m : QMsg} {env : Env}
    (hq : m.q ∉ knownMethods) : dispatch c mk s src m env = ([mkError src m.t Gen.errorCodeMethodUnknown], []) := by
  simp only [knownMethods, List.mem_cons, List.not_mem_nil, or_false, not_or] at hq
  simp only [dispatch, beq_iff_eq, hq, ↓reduceIte]

inductive OutShape (c : SrvCfg) (src : NAddr) (t : List UInt8) : List Out → Prop
  | nil : OutShape c src t []
  | reply (r : Ret) : OutShape c src t [mkReply c src t r]
  | error (code : Nat) : OutShape c src t [mkError src t code]

theorem OutShape.length_le_one {c : SrvCfg} {src : NAddr} {t : List UInt8} {outs : List Out}
    (h : OutShape c src t outs) : outs.length ≤ 1 := by
  cases h <;> simp

theorem OutShape.dst_t {c : SrvCfg} {src : NAddr} {t : List UInt8} {outs : List Out}
    (h : OutShape c src t outs) : ∀ o ∈ outs, o.dst = src ∧ o.t = t := by
  cases h <;> simp [mkReply, mkError]

theorem OutShape.reply_id_ip {c : SrvCfg} {src : NAddr} {t : List UInt8} {outs : List Out}
    (h : OutShape c src t outs) :
    ∀ o ∈ outs, ∀ r, o.kind = .reply r → o.id = some c.tbl.root ∧ o.ip = some src := by
  cases h <;> simp [mkReply, mkError]

theorem dispatch_shape (c : SrvCfg) (mk : TokenFn) (s : Srv) (src : NAddr) (m : QMsg) (env : Env) :
    OutShape c src m.t (dispatch c mk s src m env).1 := by
  fun_cases dispatch c mk s src m env <;> constructor

theorem dispatch_length_one {c : SrvCfg} {mk : TokenFn} {s : Srv} {src : NAddr} {m : QMsg} {env : Env}
    (htok : (m.q = str "announce_peer" ∨ m.q = str "put") →
      ∀ a, m.a = some a → validToken c mk s.ts.now src.ip a.token = true) :
    (dispatch c mk s src m env).1.length = 1 := by
  fun_cases dispatch c mk s src m env
  case case7 hq a ha hbad => -- `announce_peer` with a bad token
    exact absurd (htok (.inl (beq_iff_eq.mp hq)) a ha) (by simpa using hbad)
  case case10 hq a ha hbad => -- `put` with a bad token
    exact absurd (htok (.inr (beq_iff_eq.mp hq)) a ha) (by simpa using hbad)
  all_goals rfl

/-- The switch has effects only after a valid announce (case8) and a stored put (case12). -/
theorem dispatch_effs (c : SrvCfg) (mk : TokenFn) (s : Srv) (src : NAddr) (m : QMsg) (env : Env) :
    (dispatch c mk s src m env).2 = [] ∨ (dispatch c mk s src m env).2 = [.storePut] ∨
    (m.q = str "announce_peer" ∧ ∃ a, m.a = some a) := by
  fun_cases dispatch c mk s src m env
  case case8 => exact .inr (.inr ⟨beq_iff_eq.mp ‹_›, _, ‹_›⟩)
  case case12 => exact .inr (.inl rfl)
  all_goals exact .inl rfl

theorem dispatch_addPeer (c : SrvCfg) (mk : TokenFn) (s : Srv) (src : NAddr) (m : QMsg) (env : Env) (e : PeerEntry)
    (h : Effect.addPeer e ∈ (dispatch c mk s src m env).2) :
    m.q = str "announce_peer" ∧ ∃ a, m.a = some a ∧ validToken c mk s.ts.now src.ip a.token = true ∧
      c.hasPeerStore = true ∧ e = ⟨a.infoHash, src.ip, announcedPort src a⟩ := by
  rcases dispatch_effs c mk s src m env with h1 | h1 | ⟨hq, a, ha⟩
  · rw [h1] at h; cases h
  · rw [h1] at h; simp at h
  · rw [dispatch_announce_peer hq ha] at h
    cases hv : validToken c mk s.ts.now src.ip a.token <;> simp [hv, announceEffs] at h
    cases hps : c.hasPeerStore <;> simp [hps] at h
    exact ⟨hq, a, ha, hv, rfl, h⟩

theorem applyEffects_nil (s : Srv) : applyEffects s [] = s := rfl

theorem applyEffects_eq (s : Srv) (effs : List Effect) :
    applyEffects s effs = { s with peers := (applyEffects s effs).peers } := by
  induction effs generalizing s with
  | nil => rfl
  | cons e es ih => cases e <;> exact ih _

theorem applyEffects_ts (s : Srv) (effs : List Effect) : (applyEffects s effs).ts = s.ts := by
  rw [applyEffects_eq]
theorem applyEffects_closed (s : Srv) (effs : List Effect) : (applyEffects s effs).closed = s.closed := by
  rw [applyEffects_eq]
theorem applyEffects_txns (s : Srv) (effs : List Effect) : (applyEffects s effs).txns = s.txns := by
  rw [applyEffects_eq]

theorem applyEffects_append (s : Srv) (xs ys : List Effect) :
    applyEffects s (xs ++ ys) = applyEffects (applyEffects s xs) ys := by
  induction xs generalizing s with
  | nil => rfl
  | cons e es ih => cases e <;> exact ih _

theorem applyEffects_peers_congr {s t : Srv} {effs : List Effect} (h : s.peers = t.peers) :
    (applyEffects s effs).peers = (applyEffects t effs).peers := by
  induction effs generalizing s t with
  | nil => exact h
  | cons e es ih =>
    cases e with
    | addPeer e => exact ih (by simp [h])
    | _ => exact ih h

theorem mem_applyEffects {s : Srv} {effs : List Effect} {e : PeerEntry}
    (h : e ∈ (applyEffects s effs).peers) : e ∈ s.peers ∨ Effect.addPeer e ∈ effs := by
  -- case1: no effect left; case2: an `addPeer`, which filters the store and appends; case3: any other effect
  fun_induction applyEffects s effs with
  | case1 => exact .inl h
  | case2 s e' es ih =>
    rcases ih h with h1 | h1
    · simp only [List.mem_append, List.mem_filter, List.mem_singleton] at h1
      rcases h1 with h1 | h1
      · exact .inl h1.1
      · exact .inr (by simp [h1])
    · exact .inr (List.mem_cons_of_mem _ h1)
  | case3 _ _ _ _ ih => exact (ih h).imp id (List.mem_cons_of_mem _)

theorem mem_applyEffects_of_mem {s : Srv} {effs : List Effect} {e : PeerEntry} (he : e ∈ s.peers)
    (h : ∀ e', Effect.addPeer e' ∈ effs → ¬ (e'.ih = e.ih ∧ e'.ip = e.ip)) :
    e ∈ (applyEffects s effs).peers := by
  fun_induction applyEffects s effs with
  | case1 => exact he
  | case2 s e' es ih =>
    -- `e` passes the filter of this `addPeer`
    refine ih (List.mem_append_left _ (List.mem_filter.mpr ⟨he, ?_⟩)) fun x hx => h x (List.mem_cons_of_mem _ hx)
    have hk := h e' List.mem_cons_self
    simp only [Bool.not_eq_eq_eq_not, Bool.not_true, Bool.and_eq_false_iff, beq_eq_false_iff_ne, ne_eq]
    by_cases h1 : e.ih = e'.ih
    · right; intro h2; exact hk ⟨h1.symm, h2.symm⟩
    · left; exact h1
  | case3 _ _ _ _ ih => exact ih he fun x hx => h x (List.mem_cons_of_mem _ hx)

/- `handleQuery`, `processMsg`, `serveDatagram`: each is characterised as a function, so that definedness and
what a defined step returns are read off the same statement. -/

/-- The state after the table update of `handleQuery`. -/
def Srv.withTable (s : Srv) (tbl : Table) : Srv := { s with ts := { s.ts with table := tbl } }

theorem withTable_peers (s : Srv) (tbl : Table) : (s.withTable tbl).peers = s.peers := rfl
theorem withTable_closed (s : Srv) (tbl : Table) : (s.withTable tbl).closed = s.closed := rfl
theorem withTable_now (s : Srv) (tbl : Table) : (s.withTable tbl).ts.now = s.ts.now := rfl
theorem withTable_table (s : Srv) (tbl : Table) : (s.withTable tbl).ts.table = tbl := rfl

theorem handleQuery_eq (c : SrvCfg) (mk : TokenFn) (s : Srv) (src : NAddr) (m : QMsg) (env : Env) :
    handleQuery c mk s src m env =
      (updateNode c.tbl s.ts.now s.ts.table src (m.a.map (·.id)) (!m.ro) (onQuery s.ts.now) env.choice).map fun r =>
        if (c.hasHook && !env.hookPropagate) || c.passive then (s.withTable r.1, [], [])
        else (applyEffects (s.withTable r.1) (dispatch c mk (s.withTable r.1) src m env).2,
          (dispatch c mk (s.withTable r.1) src m env).1, (dispatch c mk (s.withTable r.1) src m env).2) := by
  unfold handleQuery
  cases updateNode c.tbl s.ts.now s.ts.table src (m.a.map (·.id)) (!m.ro) (onQuery s.ts.now) env.choice with
  | none => rfl
  | some r => cases c.hasHook && !env.hookPropagate <;> cases c.passive <;> rfl

/-- The sender ID `processPacket` hands to `updateNode` for a non-query message. -/
def respId (m : QMsg) : Option Id := if m.y == str "r" then m.rid else none

theorem processMsg_cases (c : SrvCfg) (mk : TokenFn) (s : Srv) (src : NAddr) (m : QMsg) (env : Env) :
    (processMsg c mk s src m env = some (s, [], []) ∧ (s.closed = true ∨ m.y ≠ str "q")) ∨
    (s.closed = false ∧ m.y = str "q" ∧ processMsg c mk s src m env = handleQuery c mk s src m env) ∨
    (s.closed = false ∧ m.y ≠ str "q" ∧ ∃ q txns', processMsg c mk s src m env =
      (updateNode c.tbl s.ts.now s.ts.table src (respId m) (!m.ro) (onResponse s.ts.now) env.choice).map fun r =>
        ({ s with txns := txns', ts := { s.ts with table := r.1 } }, [], [.deliver q])) := by
  unfold processMsg
  by_cases hcl : s.closed = true
  · exact .inl ⟨if_pos hcl, .inl hcl⟩
  by_cases hy : m.y = str "q"
  · exact .inr (.inl ⟨by simpa using hcl, hy, by rw [if_neg hcl, if_pos (beq_iff_eq.mpr hy)]⟩)
  rw [if_neg hcl, if_neg (mt beq_iff_eq.mp hy)]
  dsimp only
  cases s.txns.lookup ⟨m.t, src.key.1 ++ [0] ++ be64 src.key.2⟩ with
  | none => exact .inl ⟨rfl, .inr hy⟩
  | some q =>
    refine .inr (.inr ⟨by simpa using hcl, hy, q, (s.txns.inbound (src.key.1 ++ [0] ++ be64 src.key.2) m.t).1, ?_⟩)
    unfold respId
    generalize updateNode _ _ _ _ _ _ _ _ = u
    rcases u with _ | ⟨_, _⟩ <;> rfl

theorem processMsg_eq_some {c : SrvCfg} {mk : TokenFn} {s s' : Srv} {src : NAddr} {m : QMsg} {env : Env}
    {outs : List Out} {effs : List Effect} (h : processMsg c mk s src m env = some (s', outs, effs)) :
    (s' = s ∧ outs = [] ∧ effs = [] ∧ (s.closed = true ∨ m.y ≠ str "q")) ∨
    (s.closed = false ∧ m.y = str "q" ∧ ∃ tbl' o,
      updateNode c.tbl s.ts.now s.ts.table src (m.a.map (·.id)) (!m.ro) (onQuery s.ts.now) env.choice
        = some (tbl', o) ∧
      if (c.hasHook && !env.hookPropagate) || c.passive then s' = s.withTable tbl' ∧ outs = [] ∧ effs = []
      else s' = applyEffects (s.withTable tbl') effs ∧ outs = (dispatch c mk (s.withTable tbl') src m env).1 ∧
        effs = (dispatch c mk (s.withTable tbl') src m env).2) ∨
    (s.closed = false ∧ m.y ≠ str "q" ∧ ∃ tbl' o q txns',
      updateNode c.tbl s.ts.now s.ts.table src (respId m) (!m.ro) (onResponse s.ts.now) env.choice
        = some (tbl', o) ∧
      s' = { s with txns := txns', ts := { s.ts with table := tbl' } } ∧ outs = [] ∧ effs = [.deliver q]) := by
  rcases processMsg_cases c mk s src m env with ⟨h1, hw⟩ | ⟨hcl, hy, h1⟩ | ⟨hcl, hy, q, txns', h1⟩ <;> rw [h1] at h
  · cases h; exact .inl ⟨rfl, rfl, rfl, hw⟩
  · rw [handleQuery_eq] at h
    obtain ⟨⟨tbl', o⟩, hup, h⟩ := Option.map_eq_some_iff.mp h
    refine .inr (.inl ⟨hcl, hy, tbl', o, hup, ?_⟩)
    split at h <;> cases h
    · rw [if_pos ‹_›]; exact ⟨rfl, rfl, rfl⟩
    · rw [if_neg ‹_›]; exact ⟨rfl, rfl, rfl⟩
  · obtain ⟨⟨tbl', o⟩, hup, h⟩ := Option.map_eq_some_iff.mp h
    cases h
    exact .inr (.inr ⟨hcl, hy, tbl', o, q, txns', hup, rfl, rfl, rfl⟩)

theorem processMsg_active {c : SrvCfg} {mk : TokenFn} {s s' : Srv} {src : NAddr} {m : QMsg} {env : Env}
    {outs : List Out} {effs : List Effect}
    (hy : m.y = str "q") (hpass : c.passive = false)
    (hhook : c.hasHook = false ∨ env.hookPropagate = true) (hcl : s.closed = false)
    (h : processMsg c mk s src m env = some (s', outs, effs)) :
    ∃ tbl', s' = applyEffects (s.withTable tbl') effs ∧
      outs = (dispatch c mk (s.withTable tbl') src m env).1 ∧ effs = (dispatch c mk (s.withTable tbl') src m env).2 := by
  rcases processMsg_eq_some h with ⟨_, _, _, h1 | h1⟩ | ⟨_, _, tbl', _, _, h1⟩ | ⟨_, h1, _⟩
  · rw [hcl] at h1; cases h1
  · exact absurd hy h1
  · rw [if_neg (by rcases hhook with hh | hh <;> simp [hh, hpass])] at h1
    exact ⟨tbl', h1⟩
  · exact absurd hy h1

theorem processMsg_outs {c : SrvCfg} {mk : TokenFn} {s s' : Srv} {src : NAddr} {m : QMsg} {env : Env}
    {outs : List Out} {effs : List Effect} (h : processMsg c mk s src m env = some (s', outs, effs)) :
    outs = [] ∨ (m.y = str "q" ∧ ((c.hasHook && !env.hookPropagate) || c.passive) = false ∧
      ∃ tbl', outs = (dispatch c mk (s.withTable tbl') src m env).1) := by
  rcases processMsg_eq_some h with ⟨_, h1, _⟩ | ⟨_, hy, tbl', _, _, h1⟩ | ⟨_, _, _, _, _, _, _, _, h1, _⟩
  · exact .inl h1
  · split at h1
    · exact .inl h1.2.1
    · exact .inr ⟨hy, eq_false_of_ne_true ‹_›, tbl', h1.2.1⟩
  · exact .inl h1

theorem processMsg_shape {c : SrvCfg} {mk : TokenFn} {s s' : Srv} {src : NAddr} {m : QMsg} {env : Env}
    {outs : List Out} {effs : List Effect}
    (h : processMsg c mk s src m env = some (s', outs, effs)) : OutShape c src m.t outs := by
  rcases processMsg_outs h with rfl | ⟨_, _, _, rfl⟩
  · exact .nil
  · exact dispatch_shape ..

theorem serveDatagram_msg {c : SrvCfg} {mk : TokenFn} {s : Srv} {src : NAddr} {size : Nat} {m : QMsg} {env : Env}
    (hsize : size < 65536) (hport : (src.port == 0) = false) (hcl : s.closed = false) (hblk : c.blocked src.ip = false) :
    serveDatagram c mk s src size (.msg m) env = processMsg c mk s src m env := by
  rw [serveDatagram, if_neg (Nat.not_le_of_lt hsize), hport, hcl, hblk]; rfl

/-- The drop gate does not read `env`: which alternative holds is settled before the eviction choice in `env` is made
(`C01.never_crashes` picks the choice afterwards). -/
theorem serveDatagram_cases (c : SrvCfg) (mk : TokenFn) (s : Srv) (src : NAddr) (size : Nat) (d : Decoded) :
    (∀ env, serveDatagram c mk s src size d env = some (s, [], [])) ∨
    ∃ m, d = .msg m ∧ s.closed = false ∧ c.blocked src.ip = false ∧
      ∀ env, serveDatagram c mk s src size d env = processMsg c mk s src m env := by
  unfold serveDatagram
  by_cases h1 : size ≥ 65536
  · exact .inl fun _ => if_pos h1
  by_cases h2 : (src.port == 0) = true
  · exact .inl fun _ => by rw [if_neg h1, if_pos h2]
  by_cases h3 : s.closed = true
  · exact .inl fun _ => by rw [if_neg h1, if_neg h2, if_pos h3]
  by_cases h4 : c.blocked src.ip = true
  · exact .inl fun _ => by rw [if_neg h1, if_neg h2, if_neg h3, if_pos h4]
  simp only [if_neg h1, if_neg h2, if_neg h3, if_neg h4]
  cases d with
  | msg m => exact .inr ⟨m, rfl, by simpa using h3, by simpa using h4, fun _ => rfl⟩
  | _ => exact .inl fun _ => rfl

theorem writeGate_eq_some {c : SrvCfg} {s : Srv} {o o' : Out} (h : writeGate c s o = some o') :
    o' = o ∧ s.closed = false ∧ c.blocked o.dst.ip = false := by
  revert h; fun_cases writeGate c s o <;> intro h <;> cases h
  exact ⟨rfl, Bool.eq_false_iff.mpr ‹_›, Bool.eq_false_iff.mpr ‹_›⟩

end Dht
