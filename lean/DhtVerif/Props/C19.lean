/-
C19 — blocklisted addresses and passive mode are honoured on every path (server model).
-/
import DhtVerif.Model.Server
import DhtVerif.Lemmas.Server
import DhtVerif.Props.ST2Filter
namespace Dht

/-- A datagram from a blocked source has no effect at all: no output, no
effect on stores or pending queries, state unchanged. -/
theorem C19.blocked_src_no_effect (c : SrvCfg) (mk : TokenFn) (s : Srv) (src : NAddr) (size : Nat) (d : Decoded)
    (env : Env) (hb : c.blocked src.ip = true) :
    serveDatagram c mk s src size d env = some (s, [], []) := by
  rcases serveDatagram_cases c mk s src size d with h | ⟨_, _, _, hb', _⟩
  · exact h env
  · rw [hb] at hb'; cases hb'

/-- Nothing is ever written to a blocked destination. -/
theorem C19.never_write_blocked_dst (c : SrvCfg) (mk : TokenFn) (s : Srv) (src : NAddr) (size : Nat) (d : Decoded)
    (env : Env) (ws : List Out) (h : written c mk s src size d env = some ws) :
    ∀ o ∈ ws, c.blocked o.dst.ip = false := by
  obtain ⟨r, _, rfl⟩ := Option.map_eq_some_iff.mp h
  intro o ho
  obtain ⟨o', _, hg⟩ := List.mem_filterMap.mp ho
  obtain ⟨he, _, hb⟩ := writeGate_eq_some hg
  rw [he]; exact hb

/-- The write gate lets nothing through for a blocked destination or a closed server, whatever the datagram. -/
theorem C19.write_gate (c : SrvCfg) (s : Srv) (o : Out) :
    (c.blocked o.dst.ip = true → writeGate c s o = none) ∧ (s.closed = true → writeGate c s o = none) := by
  constructor
  · intro hb; simp [writeGate, hb]
  · intro hc; simp [writeGate, hc]

/-- In passive mode the node sends no response or error to any query. -/
theorem C19.passive_never_answers (c : SrvCfg) (mk : TokenFn) (s s' : Srv) (src : NAddr) (size : Nat) (d : Decoded)
    (env : Env) (outs : List Out) (effs : List Effect) (hp : c.passive = true)
    (h : serveDatagram c mk s src size d env = some (s', outs, effs)) : outs = [] := by
  rcases serveDatagram_cases c mk s src size d with h1 | ⟨m, _, _, _, h1⟩ <;> rw [h1] at h
  · cases h; rfl
  · exact (processMsg_outs h).resolve_right fun ⟨_, h2, _⟩ => by simp [hp] at h2

/-- … and every query it sends is marked read-only. -/
theorem C19.passive_queries_ro (c : SrvCfg) (hp : c.passive = true) : queryReadOnly c = true := by
  exact hp

def idxOf (l : List String) (x : String) : Nat := l.findIdx (· == x)

/-- T1: every socket write in the module sits in `writeToNode`, after the closed
and blocklist tests; `serve` tests the source before `processPacket`; the
passive test precedes the method switch; `makeQueryBytes` sets `ReadOnly` under `Passive`. -/
theorem C19.source_structure :
    Gen.writeToSites = ["server.go:Server.writeToNode"] ∧
    idxOf Gen.evWriteToNode "s.closed.IsSet" < idxOf Gen.evWriteToNode "s.socket.WriteTo" ∧
    idxOf Gen.evWriteToNode "list.Lookup" < idxOf Gen.evWriteToNode "s.socket.WriteTo" ∧
    idxOf Gen.evWriteToNode "s.socket.WriteTo" < Gen.evWriteToNode.length ∧
    idxOf Gen.evServe "s.ipBlocked" < idxOf Gen.evServe "s.processPacket" ∧
    idxOf Gen.evServe "s.processPacket" < Gen.evServe.length ∧
    idxOf Gen.evHandleQuery "if:s.config.Passive" < idxOf Gen.evHandleQuery "switch{" ∧
    idxOf Gen.evHandleQuery "switch{" < Gen.evHandleQuery.length ∧
    Gen.evMakeQueryBytes.contains "if:s.config.Passive" = true ∧
    Gen.evMakeQueryBytes.contains "set:m.ReadOnly" = true := by
  decide +kernel

/-! Non-vacuity -/

/-- A ping from a blocked source: nothing comes out; the same ping from another source is answered. -/
example : (serveDatagram { tbl := { root := List.replicate 20 1 }, blocked := fun ip => ip == [1,2,3,4] } (fun _ _ => []) {}
    ⟨[1,2,3,4], 5⟩ 50 (.msg { y := str "q", q := str "ping", t := [7], a := some { id := List.replicate 20 2 } }) {}).map
      (fun r => (r.2.1.length, r.2.2.length, r.1.ts.table.length)) = some (0, 0, 0) := by
  decide +kernel
example : (written { tbl := { root := List.replicate 20 1 }, blocked := fun ip => ip == [1,2,3,4] } (fun _ _ => []) {}
    ⟨[1,2,3,5], 5⟩ 50 (.msg { y := str "q", q := str "ping", t := [7], a := some { id := List.replicate 20 2 } }) {}).map
      List.length = some 1 := by
  decide +kernel
/-- The gate removes a datagram for a blocked destination. -/
example : writeGate { tbl := { root := List.replicate 20 1 }, blocked := fun ip => ip == [1,2,3,4] } {}
    (mkError ⟨[1,2,3,4], 5⟩ [7] 204) = none := by
  decide +kernel
/-- A passive node records the sender but does not answer; a non-passive one answers. -/
example : (serveDatagram { tbl := { root := List.replicate 20 1 }, passive := true } (fun _ _ => []) {}
    ⟨[1,2,3,4], 5⟩ 50 (.msg { y := str "q", q := str "ping", t := [7], a := some { id := List.replicate 20 2 } }) {}).map
      (fun r => (r.2.1.length, r.1.ts.table.length)) = some (0, 1) := by
  decide +kernel
example : (serveDatagram { tbl := { root := List.replicate 20 1 }, passive := false } (fun _ _ => []) {}
    ⟨[1,2,3,4], 5⟩ 50 (.msg { y := str "q", q := str "ping", t := [7], a := some { id := List.replicate 20 2 } }) {}).map
      (fun r => (r.2.1.length, r.1.ts.table.length)) = some (1, 1) := by
  decide +kernel

/-! ## T1 by translation: the traversal's node filter -/

/-- `Server.TraversalNodeFilter` in server.go (with `validNodeAddr` read from its own source) IS
`traversalNodeFilter`, which rejects every candidate at a blocked IP: the traversals never query one. -/
theorem C19.traversalNodeFilter_is_the_source (c : SrvCfg) (n : Cand) :
    DExp.evalWith (tnfCond c n) (tnfRet c n) Gen.treeTraversalNodeFilter = some (traversalNodeFilter c n) ∧
    (c.blocked n.addr.ip = true → traversalNodeFilter c n = false) :=
  ⟨SourceTrees.traversalNodeFilter c n, traversalNodeFilter_blocked c n⟩

/-- `validNodeAddr` in server.go IS `validNodeAddr`. -/
theorem C19.validNodeAddr_is_the_source (ip : List UInt8) (port : Nat) :
    Gen.treeValidNodeAddrLets = vnaLetsExpected ∧
    DExp.evalWith (vnaCond ip port) boolRet Gen.treeValidNodeAddr = some (validNodeAddr ip port) :=
  SourceTrees.validNodeAddr ip port

end Dht
