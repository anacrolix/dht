/- The store whose calls can fail (Model/Bep44Fault.lean): what a put does to it, case by case. -/
import DhtVerif.Model.Bep44Fault
import DhtVerif.Lemmas.B44
namespace Dht.B44

theorem storePutF_cases (P : Params) (f : Fault) (now : Nat) (s : Store) (i : Item) :
    (f.putFails = true ∧ storePutF P f now s i = (.storeErr, s)) ∨
    (f.putFails = false ∧ storePutF P f now s i = (.ok, s.set (target P i) ⟨i, now⟩)) := by
  unfold storePutF
  cases f.putFails <;> simp

theorem wrapperPutF_cases (P : Params) (f : Fault) (now : Nat) (s : Store) (i : Item) :
    (∃ e, check P i = some e ∧ wrapperPutF P f now s i = (.krpcErr e, s)) ∨
    (check P i = none ∧ f.getFails = true ∧ wrapperPutF P f now s i = (.storeErr, s)) ∨
    (∃ st e, check P i = none ∧ f.getFails = false ∧ s (target P i) = some st ∧
        checkIncomingWith P.casSpec st.item i = some e ∧ wrapperPutF P f now s i = (.krpcErr e, s)) ∨
    (check P i = none ∧ f.getFails = false ∧ Admits P s i ∧ f.putFails = true ∧
        wrapperPutF P f now s i = (.storeErr, s)) ∨
    (check P i = none ∧ f.getFails = false ∧ Admits P s i ∧ f.putFails = false ∧
        wrapperPutF P f now s i = (.ok, s.set (target P i) ⟨i, now⟩)) := by
  unfold wrapperPutF
  fun_cases wrapperPutFWith false P f now s i
  case case1 e hc => exact .inl ⟨e, hc, rfl⟩ -- `Check` refuses
  case case2 h => cases h -- the variant that takes a failing `Get` for "not found"
  case case3 hc hg _ => exact .inr (.inl ⟨hc, hg, rfl⟩) -- `Get` fails
  case case5 hc hg st hs e hi => -- `CheckIncoming` refuses
    exact .inr (.inr (.inl ⟨st, e, hc, by simpa using hg, hs, hi, rfl⟩))
  -- case4: nothing is stored under the target, case6: `CheckIncoming` lets the put replace `st`;
  -- the outcome is that of the store's `Put`
  case' case4 hc hg hs => have had : Admits P s i := fun st h => by rw [hs] at h; cases h
  case' case6 hc hg st hs hi => have had : Admits P s i := fun st' h => by rw [hs] at h; cases h; exact hi
  all_goals
    refine .inr (.inr (.inr ?_))
    exact (storePutF_cases P f now s i).imp (fun ⟨hp, h⟩ => ⟨hc, by simpa using hg, had, hp, h⟩)
      fun ⟨hp, h⟩ => ⟨hc, by simpa using hg, had, hp, h⟩

theorem wrapperPutF_of_incoming {P : Params} {f : Fault} {s : Store} {i : Item} {st : Entry} {e : Nat} (now : Nat)
    (hc : check P i = none) (hg : f.getFails = false) (hs : s (target P i) = some st)
    (hi : checkIncomingWith P.casSpec st.item i = some e) : wrapperPutF P f now s i = (.krpcErr e, s) := by
  simp [wrapperPutF, wrapperPutFWith, hc, hg, hs, hi]

theorem wrapperPutF_store (P : Params) (f : Fault) (now : Nat) (s : Store) (i : Item) :
    ((wrapperPutF P f now s i).1 ≠ .ok ∧ (wrapperPutF P f now s i).2 = s) ∨
    (f.getFails = false ∧ f.putFails = false ∧ (wrapperPutF P f now s i).1 = .ok ∧
      Wrapper.put P now s i = ((wrapperPutF P f now s i).2, none)) := by
  rcases wrapperPutF_cases P f now s i with ⟨e, _, h⟩ | ⟨_, _, h⟩ | ⟨st, e, _, _, _, _, h⟩ | ⟨_, _, _, _, h⟩ |
      ⟨hc, hg, had, hp, h⟩
  · rw [h]; exact Or.inl ⟨by simp, rfl⟩
  · rw [h]; exact Or.inl ⟨by simp, rfl⟩
  · rw [h]; exact Or.inl ⟨by simp, rfl⟩
  · rw [h]; exact Or.inl ⟨by simp, rfl⟩
  · rw [h]; exact Or.inr ⟨hg, hp, rfl, Wrapper.put_of_admits now hc had⟩

theorem wrapperPutF_at (P : Params) (f : Fault) (now : Nat) (s : Store) (i : Item) (t : Target) :
    (wrapperPutF P f now s i).2 t = s t ∨
    ((wrapperPutF P f now s i).1 = .ok ∧ t = target P i ∧ Admits P s i ∧
      (wrapperPutF P f now s i).2 t = some ⟨i, now⟩) := by
  rcases wrapperPutF_store P f now s i with ⟨_, h⟩ | ⟨_, _, hok, h⟩
  · rw [h]; exact Or.inl rfl
  · have := Wrapper.put_at P now s i t
    rw [h] at this
    exact this.imp_right fun ⟨ht, _, hadm, h'⟩ => ⟨hok, ht, hadm, h'⟩

theorem wrapperPutF_forward (P : Params) (f : Fault) (now : Nat) (s : Store) (i : Item) (t : Target) (a : Entry)
    (ha : s t = some a) :
    ∃ b, (wrapperPutF P f now s i).2 t = some b ∧ a.item.seq ≤ b.item.seq ∧
      (a.item.seq = b.item.seq → a.item.bv = b.item.bv) := by
  rcases wrapperPutF_at P f now s i t with h | ⟨_, ht, had, h⟩
  · exact ⟨a, h ▸ ha, Int.le_refl _, fun _ => rfl⟩
  · exact ⟨_, h, checkIncomingWith_none_forward (had a (ht ▸ ha))⟩

theorem wrapperPutF_cas (P : Params) (hP : P.casSpec = true) (f : Fault) (now : Nat) (s : Store) (i : Item)
    (t : Target) (a b : Entry) (ha : s t = some a) (hb : (wrapperPutF P f now s i).2 t = some b)
    (hch : b.item.seq ≠ a.item.seq ∨ b.item.bv ≠ a.item.bv) (h0 : i.cas ≠ 0) :
    i.cas = a.item.seq ∧ t = target P i ∧ b.item = i ∧ (wrapperPutF P f now s i).1 = .ok := by
  rcases wrapperPutF_at P f now s i t with h | ⟨hok, ht, had, h⟩
  · rw [h, ha] at hb; cases hb
    rcases hch with h | h <;> exact (h rfl).elim
  · rw [h] at hb; cases hb
    exact ⟨checkIncomingSpec_none_cas (hP ▸ had a (ht ▸ ha)) hch h0, ht, rfl, hok⟩

theorem runF_cons (P : Params) (s : Store) (e : PutEv) (evs : List PutEv) :
    runF P s (e :: evs) = runF P (stepF P s e) evs := rfl

theorem runF_append (P : Params) (s : Store) (a b : List PutEv) :
    runF P s (a ++ b) = runF P (runF P s a) b := by
  unfold runF; exact List.foldl_append ..

theorem runF_snoc (P : Params) (s : Store) (a : List PutEv) (e : PutEv) :
    runF P s (a ++ [e]) = stepF P (runF P s a) e := by
  rw [runF_append]; rfl

theorem runF_forward (P : Params) (evs : List PutEv) (s : Store) (t : Target) (a : Entry) (ha : s t = some a) :
    ∃ b, runF P s evs t = some b ∧ a.item.seq ≤ b.item.seq ∧
      (a.item.seq = b.item.seq → a.item.bv = b.item.bv) := by
  refine List.foldlRecOn evs (stepF P) (motive := fun s' => ∃ b, s' t = some b ∧ a.item.seq ≤ b.item.seq ∧
    (a.item.seq = b.item.seq → a.item.bv = b.item.bv)) ⟨a, ha, Int.le_refl _, fun _ => rfl⟩ ?_
  rintro s' ⟨c, hc, hle, heq⟩ e _
  obtain ⟨b, hb, hle', heq'⟩ := wrapperPutF_forward P e.f e.now s' e.item t c hc
  refine ⟨b, hb, Int.le_trans hle hle', fun h => ?_⟩
  have h1 : a.item.seq = c.item.seq := by omega
  have h2 : c.item.seq = b.item.seq := by omega
  rw [heq h1, heq' h2]

theorem answersOf_cases (o : PutOutcome) :
    (answersOf o = [.response] ∧ o = .ok) ∨ ((∃ c, answersOf o = [.error c]) ∧ o ≠ .ok) := by
  cases o
  · exact Or.inl ⟨rfl, rfl⟩
  · exact Or.inr ⟨⟨_, rfl⟩, nofun⟩
  · exact Or.inr ⟨⟨_, rfl⟩, nofun⟩

end Dht.B44
