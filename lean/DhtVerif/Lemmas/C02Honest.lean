/- Every step keeps the invariant; the final argument. -/
import DhtVerif.Lemmas.C02HonestInv
namespace Dht

theorem NetNode.cand_ok {net : List NetNode} (hwf : NetWF net) (n : NetNode) (hn : n ∈ net) :
    n.cand.ok' := by
  intro i hi
  simp only [NetNode.cand, Option.some.injEq] at hi
  subst hi
  exact hwf.idLen n hn

theorem Trav.HInv.step {c : TravCfg} {net : List NetNode} {hist : List KElem} {s s' : Trav} {e : TravEv}
    (ht : c.target.length = 20) (hnf : ∀ n ∈ net, c.nodeFilter n.cand = true)
    (h : Trav.HInv c net hist s) (he : HonestEv c net e)
    (hs : Trav.Step c s e s') : Trav.HInv c net (hist ++ offeredAt c s e) s' := by
  cases hs
  case addClosest a r hph =>
    have E := h.entry (phaseOf_mem hph)
    obtain ⟨⟨id, hidnet, hresp⟩, hdf, _, _⟩ := E.honest r rfl
    have hnfa : c.nodeFilter ⟨some id, a⟩ = true := hnf (id, a) hidnet
    have hoff : offeredAt c s (.addClosest a) = [⟨id, a, r.data⟩] := by
      simp only [offeredAt, QResult.offer, hph, hresp, hnfa, hdf, Bool.and_self, if_true]
    rw [hoff]
    refine h.rephase a (.closestDone r) rfl rfl rfl rfl (fun m hm' => List.mem_append_left _ hm') (fun m hm' => ?_)
      ⟨fun _ hr => E.honest _ hr, fun _ => ⟨⟨id, a, r.data⟩, by simp, rfl⟩, (fun _ hr => nomatch hr), (fun hr => nomatch hr)⟩
    rcases List.mem_append.mp hm' with hm' | hm'
    · exact h.hist_net m hm'
    · cases List.mem_singleton.mp hm'; exact hidnet
  all_goals simp only [offeredAt, List.append_nil]
  case addNodes ns => exact (h.addNodes ht ns he).1
  case eval t _ _ _ ht' | evalUnlocked t _ _ _ ht' => exact { (ht' ▸ h.startLoop _ : Trav.HInv c net hist t) with }
  case queryReturn a r _ =>
    exact h.rephase a (.returned r) rfl rfl rfl rfl (fun _ hm => hm) h.hist_net
      ⟨fun _ hr => Option.some.inj hr ▸ he, (fun hp => nomatch hp), (fun _ hr => nomatch hr), (fun hr => nomatch hr)⟩
  case addReplyNodes a r hph =>
    have E := h.entry (phaseOf_mem hph)
    obtain ⟨_, _, hok, _⟩ := E.honest r rfl
    obtain ⟨h1, _, hs1⟩ := h.addNodes ht r.nodes (fun x hx => hok x (List.mem_append_left _ hx))
    exact h1.rephase a (.nodesDone r) rfl rfl rfl
      (congrArg (setPhase · a _) (Trav.addNodes_addsTo c r.nodes s).inflight.symm) (fun _ hm' => hm') h.hist_net
      ⟨fun _ hr => E.honest _ hr, fun _ => E.resp_past rfl,
        fun _ hr n hn hnr => hs1 n.cand (QPhase.nodesDone.inj hr ▸ hnr) (hnf n (kClosest_sub n hn)),
        (fun hr => nomatch hr)⟩
  case addReplyNodes6 a r hph =>
    have E := h.entry (phaseOf_mem hph)
    obtain ⟨_, _, hok, hall⟩ := E.honest r rfl
    obtain ⟨h1, g1, hs1⟩ := h.addNodes ht r.nodes6 (fun x hx => hok x (List.mem_append_right _ hx))
    refine h1.rephase a .nodes6Done rfl rfl rfl
      (congrArg (setPhase · a _) (Trav.addNodes_addsTo c r.nodes6 s).inflight.symm) (fun _ hm' => hm') h.hist_net
      ⟨(fun _ hr => nomatch hr), fun _ => E.resp_past rfl, (fun _ hr => nomatch hr), fun _ n hn => ?_⟩
    -- an honest reply lists every one of the K closest: in `nodes` (added before) or in `nodes6` (added now)
    rcases List.mem_append.mp (hall n hn) with hnr | hnr
    · exact g1.has (E.cov_nodes r rfl n hn hnr)
    · exact hs1 n.cand hnr (hnf n (kClosest_sub n hn))
  case finish a hph => exact h.finish a (phaseOf_mem hph) rfl rfl rfl rfl
  -- the other events touch neither the frontier nor the queried set, the start log or the goroutines
  all_goals exact { h with }

theorem Trav.HInv.exec {c : TravCfg} {net : List NetNode}
    (ht : c.target.length = 20) (hnf : ∀ n ∈ net, c.nodeFilter n.cand = true)
    {evs : List TravEv} {s : Trav} (hh : HonestHist c net evs)
    (h : Trav.exec c {} evs = some s) : Trav.HInv c net (offered c {} evs) s :=
  List.nil_append (offered c {} evs) ▸
    Trav.exec_offered_induct (P := Trav.HInv c net) h (Trav.HInv.init c net)
      (fun e he _ _ _ hI hs => hI.step ht hnf (hh e he) hs)

theorem closestPairs_nodup (cl : List KElem) (h : KNN.NodupK cl) :
    (cl.map (fun m => (m.id, m.addr))).Nodup := by
  unfold KNN.NodupK at h
  unfold List.Nodup
  rw [List.pairwise_map]
  refine h.imp ?_
  intro a b hk e
  apply hk
  simp only [Prod.mk.injEq] at e
  simp [KElem.key, e.1, e.2]

/-- `k` members with pairwise different keys, all network nodes, none of them `n`, cannot all be as close
to the target as `n` when `n` is one of the K closest nodes of the network: distances are pairwise different,
so they would all be strictly closer. -/
theorem closest_not_all_closer {net : List NetNode} (hwf : NetWF net) {t : Id} (ht : t.length = 20) {k : Nat}
    {n : NetNode} (hn : n ∈ kClosest t k net) (cl : List KElem) (hnd : KNN.NodupK cl)
    (hnet : ∀ m ∈ cl, (m.id, m.addr) ∈ net) (hlen : k ≤ cl.length)
    (hcl : ∀ m ∈ cl, m.dist t ≤ netDist t n) (hnot : ∀ m ∈ cl, (m.id, m.addr) ≠ n) : False := by
  have := kClosest_closer_lt t k net n hn (cl.map (fun m => (m.id, m.addr))) (closestPairs_nodup cl hnd) (by
    intro x hx
    obtain ⟨m, hm, rfl⟩ := List.mem_map.mp hx
    refine ⟨hnet m hm, Nat.lt_of_le_of_ne (hcl m hm) (fun e => hnot m hm ?_)⟩
    exact hwf.eq_of_dist t ht _ n (hnet m hm) (kClosest_sub n hn) e)
  rw [List.length_map] at this
  omega

theorem honest_kClosest_sub {c : TravCfg} {net : List NetNode} (hwf : NetWF net)
    (ht : c.target.length = 20) (hnf : ∀ n ∈ net, c.nodeFilter n.cand = true)
    (evs : List TravEv) (s : Trav) (hh : HonestHist c net evs)
    (h : Trav.exec c {} evs = some s)
    (hidle : s.inflight = []) (hq : s.haveQuery c = false) (hstarted : s.started ≠ []) :
    ∀ n ∈ kClosest c.target c.k net, n ∈ closestNodes s := by
  have hI := Trav.HInv.exec ht hnf hh h
  have hK := (List.nil_append (offered c {} evs) ▸ Trav.exec_reach (hist := []) .init h).inv
  have hoffnet : ∀ p ∈ KNN.latest (offered c {} evs), (p.id, p.addr) ∈ net :=
    fun p hp => hI.hist_net p (KNN.mem_latest_imp _ p hp)
  have hclnet : ∀ m ∈ s.closest, (m.id, m.addr) ∈ net := fun m hm => hoffnet m (hK.sub m hm)
  -- with nothing in flight, a lookup that started a query accounts for all K closest
  have hcov : s.covers c net := hI.cov.resolve_right fun h1 => by
    obtain ⟨a, ha⟩ := List.exists_mem_of_ne_nil _ hstarted
    exact absurd (h1 a ha) (by rw [hidle]; exact List.not_mem_nil)
  intro n hn
  have hnnet := kClosest_sub n hn
  apply Classical.byContradiction
  intro hnot
  -- `n` is no member; in both cases the set is full of members at least as close as `n`
  have key : c.k ≤ s.closest.length ∧ ∀ m' ∈ s.closest, m'.dist c.target ≤ netDist c.target n := by
    rcases hcov n hn with hqd | hunq
    · -- `n` was queried: it answered, was offered, and is missing only because the others are at least as close
      rw [← (Trav.Core.exec h).queriedEq] at hqd
      obtain ⟨a', ha', hkey⟩ := List.mem_map.mp hqd
      obtain ⟨m, hm, hma⟩ := (hI.resp_started a' ha').resolve_left (by rw [hidle]; exact List.not_mem_nil)
      obtain ⟨p, hp, hpk⟩ := KNN.latest_has_key _ m hm
      -- the offer `p` has the printed address of `n`, so it is the network node `n`
      have hmn : m.addr.strKey = n.2.strKey := hma ▸ hkey
      have hstr : p.addr.strKey = n.2.strKey := (congrArg Prod.snd hpk).trans hmn
      have hpn : (p.id, p.addr) = n := nodup_map_inj (·.2.strKey) hwf.addrNodup (hoffnet p hp) hnnet hstr
      have hps : p ∉ s.closest := fun hps => hnot (List.mem_map.mpr ⟨p, hps, hpn⟩)
      refine ⟨Nat.le_of_eq (hK.full_of_missing p hp hps).symm, fun m' hm' => ?_⟩
      have : m'.dist c.target ≤ netDist c.target (p.id, p.addr) := hK.far p hp hps m' hm'
      rwa [hpn] at this
    · -- `n` waits in the frontier although no query is wanted: the set is full and its farthest member is closer
      obtain ⟨hroom, hfull⟩ := Trav.exhausted_of_not_haveQuery hI.unq_sorted hq
      cases hf : KNN.full c.k s.closest with
      | false => rw [hroom hf] at hunq; cases hunq
      | true =>
        have hlen : c.k ≤ s.closest.length := by simpa [KNN.full] using hf
        have hkpos : 0 < c.k := Nat.zero_lt_of_lt (mem_kClosest.mp hn).2
        cases hfar : KNN.farthest s.closest with
        | none =>
          rw [List.getLast?_eq_none_iff.mp hfar] at hlen
          exact absurd hlen (Nat.not_le_of_gt hkpos)
        | some far =>
          rcases hfull hf far hfar n.cand hunq with hnone | ⟨i, hi, hgt⟩
          · cases hnone
          · cases hi
            have hfl : far.id.length = 20 := hwf.idLen _ (hclnet far (List.mem_of_getLast? hfar))
            have hlt : far.dist c.target < netDist c.target n :=
              (Id.cmp_lt_iff_toNat _ _ (by
                rw [Id.distance_length _ _ hfl ht, Id.distance_length _ _ (hwf.idLen n hnnet) ht])).mp
                ((Id.cmp_gt_iff _ _).mp hgt)
            exact ⟨hlen, fun m' hm' =>
              Nat.le_of_lt (Nat.lt_of_le_of_lt (KNN.le_farthest c.target s.closest far hK.sorted hfar m' hm') hlt)⟩
  exact closest_not_all_closer hwf ht hn s.closest hK.nodupS hclnet key.1 key.2 (fun m hm e => hnot (List.mem_map.mpr ⟨m, hm, e⟩))

end Dht
