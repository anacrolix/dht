/-
The structural invariant of the traversal machine: what `AddNodes` and the inner start loop may do to a
state (`Trav.AddsTo`, `Trav.Launch`), and `Trav.Core`, kept by every step; the start log only grows, so a query that
returned had been started.
-/
import DhtVerif.Lemmas.Trav
namespace Dht

/-- Everything `AddNodes` may do to a state: only the frontier and the generation
change; the generation never decreases and stays the same only if nothing changed. -/
structure Trav.AddsTo (c : TravCfg) (ns : List Cand) (s s' : Trav) : Prop where
  queried : s'.queried = s.queried
  closest : s'.closest = s.closest
  outstanding : s'.outstanding = s.outstanding
  inflight : s'.inflight = s.inflight
  run : s'.run = s.run
  stopping : s'.stopping = s.stopping
  stopper : s'.stopper = s.stopper
  started : s'.started = s.started
  gen_le : s.gen ≤ s'.gen
  same : s'.gen = s.gen → s'.unq = s.unq
  sorted : SSet.pw c.target s.unq → SSet.pw c.target s'.unq
  mem : ∀ x ∈ s'.unq, x ∈ ns ∨ x ∈ s.unq

theorem Trav.addNodes_addsTo (c : TravCfg) (ns : List Cand) (s : Trav) :
    Trav.AddsTo c ns s (s.addNodes c ns) := by
  refine Trav.addNodes_induct (P := Trav.AddsTo c ns s) ns
    ⟨rfl, rfl, rfl, rfl, rfl, rfl, rfl, rfl, Nat.le_refl _, fun _ => rfl, id, fun _ h => Or.inr h⟩ (fun t n hn h => ?_)
  rcases Trav.addNode_cases c t n with ⟨_, e⟩ | ⟨_, _, e⟩ <;> rw [e]
  · exact h
  · have hg := h.gen_le
    -- `{ h with .. }` although `h` is about another state: the clauses not listed are taken from `h` and re-checked by
    -- definitional equality, which succeeds for every clause that reads only fields on which the two states agree.
    refine { h with
      gen_le := Nat.le_succ_of_le hg
      same := fun (e : t.gen + 1 = s.gen) => by omega
      sorted := fun hs => SSet.add_pw c.target t.unq n (h.sorted hs)
      mem := fun x hx => ?_ }
    rcases SSet.mem_add_imp c.target t.unq n x hx with rfl | hx
    · exact Or.inl hn
    · exact h.mem x hx

/-- What `AddNodes` touches, without the list of nodes: the part of `Trav.AddsTo` that speaks of the run loop. -/
structure Trav.AddsH (s s' : Trav) : Prop where
  run : s'.run = s.run
  stopping : s'.stopping = s.stopping
  outstanding : s'.outstanding = s.outstanding
  closest : s'.closest = s.closest
  inflight : s'.inflight = s.inflight
  gen_le : s.gen ≤ s'.gen
  same : s'.gen = s.gen → s'.unq = s.unq

theorem Trav.AddsTo.addsH {c : TravCfg} {ns : List Cand} {s s' : Trav} (A : Trav.AddsTo c ns s s') :
    Trav.AddsH s s' :=
  ⟨A.run, A.stopping, A.outstanding, A.closest, A.inflight, A.gen_le, A.same⟩

/-- State `s` of a lookup with configuration `c` is consistent: the frontier is sorted; `queried`, `started`, `inflight`
and `outstanding` are four views of the same queries (each address started once, those in flight among them, counted); no
sleeper's generation is ahead of `gen`, and the stopper sleeps on the current one only while queries are outstanding. -/
structure Trav.Core (c : TravCfg) (s : Trav) : Prop where
  sorted : SSet.pw c.target s.unq
  queriedEq : s.started.map Addr.strKey = s.queried
  nodup : s.queried.Nodup
  inflSub : (s.inflight.map (·.1)).Sublist s.started
  outEq : s.outstanding = s.inflight.length
  runGen : ∀ g o, s.run = .sleeping g o → g ≤ s.gen
  stopGen : ∀ g, s.stopper = .sleeping g → g ≤ s.gen
  stopOut : ∀ g, s.stopper = .sleeping g → s.gen = g → s.outstanding ≠ 0
  stopIff : s.stopper ≠ .none ↔ s.stopping = true

theorem Trav.Core.init (c : TravCfg) : Trav.Core c {} := by
  refine ⟨List.Pairwise.nil, rfl, List.nodup_nil, by simp, rfl, ?_, ?_, ?_, ?_⟩ <;> simp

theorem Trav.Core.started_nodup {c : TravCfg} {s : Trav} (h : Trav.Core c s) : s.started.Nodup := by
  have := h.nodup
  rw [← h.queriedEq] at this
  exact (List.pairwise_map.mp this).imp (fun hne e => hne (by rw [e]))

theorem Trav.Core.inflight_nodup {c : TravCfg} {s : Trav} (h : Trav.Core c s) :
    (s.inflight.map (·.1)).Nodup := h.inflSub.nodup h.started_nodup

/-- What the inner start loop (`startLoop`, any number of `startQuery` rounds) does to a state: it only moves candidates
from the frontier into `queried` / `inflight` (phase `inDoQuery`), and keeps `Core`. -/
structure Trav.Launch (c : TravCfg) (s s' : Trav) : Prop where
  gen : s'.gen = s.gen
  run : s'.run = s.run
  stopping : s'.stopping = s.stopping
  stopper : s'.stopper = s.stopper
  closest : s'.closest = s.closest
  out_le : s.outstanding ≤ s'.outstanding
  core : Trav.Core c s → Trav.Core c s'
  unqSub : s'.unq.Sublist s.unq
  queriedMem : ∀ k ∈ s'.queried, k ∈ s.queried ∨ ∃ n ∈ s.unq, n.addr.strKey = k
  inflMem : ∀ e ∈ s'.inflight, e ∈ s.inflight ∨ e.2 = .inDoQuery

theorem Trav.Launch.refl (c : TravCfg) (s : Trav) : Trav.Launch c s s :=
  ⟨rfl, rfl, rfl, rfl, rfl, Nat.le_refl _, id, List.Sublist.refl _, fun _ h => Or.inl h, fun _ h => Or.inl h⟩

theorem Trav.Launch.trans {c : TravCfg} {s s' s'' : Trav} (h1 : Trav.Launch c s s') (h2 : Trav.Launch c s' s'') :
    Trav.Launch c s s'' := by
  refine ⟨h2.gen.trans h1.gen, h2.run.trans h1.run, h2.stopping.trans h1.stopping, h2.stopper.trans h1.stopper,
    h2.closest.trans h1.closest, Nat.le_trans h1.out_le h2.out_le, fun h => h2.core (h1.core h),
    h2.unqSub.trans h1.unqSub, ?_, ?_⟩
  · intro k hk
    rcases h2.queriedMem k hk with h | ⟨n, hn, e⟩
    · exact h1.queriedMem k h
    · exact Or.inr ⟨n, h1.unqSub.subset hn, e⟩
  · intro e he
    rcases h2.inflMem e he with h | h
    · exact h1.inflMem e h
    · exact Or.inr h

theorem Trav.startQuery_launch (c : TravCfg) (s : Trav) : Trav.Launch c s (s.startQuery c) := by
  rcases Trav.startQuery_cases c s with ⟨_, h⟩ | ⟨a, rest, hu, ⟨hq, h⟩ | ⟨hq, h⟩⟩ <;> rw [h]
  · exact Trav.Launch.refl c s
  all_goals
    have hsorted : Trav.Core c s → SSet.pw c.target rest := fun hc => (List.pairwise_cons.mp (hu ▸ hc.sorted)).2
    have hsub : rest.Sublist s.unq := hu ▸ List.sublist_cons_self a rest
  · exact ⟨rfl, rfl, rfl, rfl, rfl, Nat.le_refl _, fun hc => { hc with sorted := hsorted hc }, hsub,
      fun _ h => Or.inl h, fun _ h => Or.inl h⟩
  · refine ⟨rfl, rfl, rfl, rfl, rfl, Nat.le_succ _, fun hc => ?_, hsub, fun k hk => ?_, fun e he => ?_⟩
    · exact { hc with
        sorted := hsorted hc
        queriedEq := by simp [hc.queriedEq]
        nodup := List.nodup_append.mpr ⟨hc.nodup, by simp,
          fun x hx y hy e => hq (List.mem_singleton.mp hy ▸ e ▸ hx)⟩
        inflSub := by
          show ((s.inflight ++ [(a.addr, QPhase.inDoQuery)]).map (·.1)).Sublist (s.started ++ [a.addr])
          rw [List.map_append]
          exact hc.inflSub.append (List.Sublist.refl _)
        outEq := show s.outstanding + 1 = (s.inflight ++ [(a.addr, QPhase.inDoQuery)]).length by simp [hc.outEq]
        stopOut := fun _ _ _ => Nat.succ_ne_zero _ }
    · refine (List.mem_append.mp hk).imp_right fun h => ⟨a, hu ▸ List.mem_cons_self, (List.mem_singleton.mp h).symm⟩
    · exact (List.mem_append.mp he).imp_right fun h => by rw [List.mem_singleton.mp h]

theorem Trav.startLoop_launch (c : TravCfg) (fuel : Nat) (s : Trav) : Trav.Launch c s (Trav.startLoop c fuel s) :=
  Trav.startLoop_induct (P := Trav.Launch c s) fuel (Trav.Launch.refl c s)
    (fun t h _ _ => h.trans (Trav.startQuery_launch c t))

theorem Trav.Core.withInflight {c : TravCfg} {s : Trav} (h : Trav.Core c s) (a : Addr) (p : QPhase) :
    Trav.Core c { s with inflight := setPhase s.inflight a p } :=
  ⟨h.sorted, h.queriedEq, h.nodup, by rw [setPhase_map_fst]; exact h.inflSub,
    by rw [setPhase_length]; exact h.outEq, h.runGen, h.stopGen, h.stopOut, h.stopIff⟩

theorem Trav.Core.addNode {c : TravCfg} {s : Trav} (h : Trav.Core c s) (n : Cand) : Trav.Core c (s.addNode c n) := by
  rcases Trav.addNode_cases c s n with ⟨_, e⟩ | ⟨_, _, e⟩ <;> rw [e]
  · exact h
  · exact { h with
      sorted := SSet.add_pw c.target s.unq n h.sorted
      runGen := fun g o hr => Nat.le_succ_of_le (h.runGen g o hr)
      stopGen := fun g hr => Nat.le_succ_of_le (h.stopGen g hr)
      stopOut := fun g hr (hg : s.gen + 1 = g) => by have := h.stopGen g hr; omega }

theorem Trav.Core.addNodes {c : TravCfg} {s : Trav} (h : Trav.Core c s) (ns : List Cand) :
    Trav.Core c (s.addNodes c ns) :=
  Trav.addNodes_induct ns h (fun _ n _ h => h.addNode n)

theorem Trav.Core.step {c : TravCfg} {s s' : Trav} {e : TravEv} (h : Trav.Core c s)
    (hs : Trav.Step c s e s') : Trav.Core c s' := by
  cases hs with
  | addNodes ns => exact h.addNodes ns
  | exit | wake => exact { h with runGen := fun _ _ h => nomatch h }
  | eval t _ _ _ ht | evalUnlocked t _ _ _ ht =>
    have hc := (ht ▸ Trav.startLoop_launch c _ s).core h
    exact { hc with runGen := fun g o hh => by cases hh <;> exact Nat.le_refl _ }
  | capture o => exact { h with runGen := fun g o hh => by cases hh; exact Nat.le_refl _ }
  | queryReturn a r => exact h.withInflight a _
  | addClosest a r =>
    exact Trav.Core.withInflight (s := { s with closest := (s.addClosest c a r).closest }) { h with } a _
  | addReplyNodes a r | addReplyNodes6 a r =>
    exact (Trav.addNodes_addsTo c _ s).inflight ▸ (h.addNodes _).withInflight a _
  | finish a hp =>
    have hl := filter_ne_length h.inflight_nodup (phaseOf_mem hp)
    have ho := h.outEq
    exact { h with
      inflSub := (List.filter_sublist.map _).trans h.inflSub
      outEq := show s.outstanding - 1 = (s.inflight.filter _).length by rw [ho, ← hl]; rfl
      runGen := fun g o hr => Nat.le_succ_of_le (h.runGen g o hr)
      stopGen := fun g hr => Nat.le_succ_of_le (h.stopGen g hr)
      stopOut := fun g hr (hg : s.gen + 1 = g) => by have := h.stopGen g hr; omega }
  | stopAgain => exact h
  | stop hst => exact { h with stopGen := (fun _ h => nomatch h), stopOut := (fun _ h => nomatch h), stopIff := by simp }
  | stopperDone hst | stopperWake _ hst =>
    have := h.stopIff.mp (by rw [hst]; simp)
    exact { h with stopGen := (fun _ h => nomatch h), stopOut := (fun _ h => nomatch h), stopIff := by simp [this] }
  | stopperSleep hst hout =>
    have := h.stopIff.mp (by rw [hst]; simp)
    exact { h with
      stopGen := fun g hh => by cases hh; exact Nat.le_refl _
      stopOut := fun _ _ _ => hout
      stopIff := by simp [this] }

theorem Trav.Core.exec {c : TravCfg} {evs : List TravEv} {s : Trav} (h : Trav.exec c {} evs = some s) :
    Trav.Core c s :=
  Trav.exec_induct h (Trav.Core.init c) (fun _ _ _ _ hp hs => hp.step hs)

theorem Trav.Step.started_mono {c : TravCfg} {s s' : Trav} {e : TravEv} (hs : Trav.Step c s e s') :
    ∀ a ∈ s.started, a ∈ s'.started := by
  have hloop : ∀ a ∈ s.started, a ∈ (Trav.startLoop c (s.unq.length + 1) s).started := by
    refine Trav.startLoop_induct (P := fun t => ∀ a ∈ s.started, a ∈ t.started) _ (fun _ h => h) (fun t ih _ _ a ha => ?_)
    rcases Trav.startQuery_cases c t with ⟨_, e⟩ | ⟨_, _, _, ⟨_, e⟩ | ⟨_, e⟩⟩ <;> rw [e]
    · exact ih a ha
    · exact ih a ha
    · exact List.mem_append_left _ (ih a ha)
  cases hs
  case addNodes | addReplyNodes | addReplyNodes6 => exact (Trav.addNodes_addsTo c _ s).started ▸ fun _ h => h
  case eval t _ _ _ ht | evalUnlocked t _ _ _ ht => exact ht ▸ hloop
  all_goals exact fun _ h => h

theorem Trav.started_of_returned {c : TravCfg} {evs : List TravEv} {s0 s : Trav}
    (hi : Trav.Core c s0) (h : Trav.exec c s0 evs = some s) {a : Addr} {r : QResult}
    (hr : TravEv.queryReturn a r ∈ evs) : a ∈ s.started := by
  induction evs generalizing s0 with
  | nil => cases hr
  | cons e es ih =>
    obtain ⟨s1, h1, h2⟩ := Trav.exec_cons.mp h
    have hs1 := Trav.Step.of_step h1
    rcases List.mem_cons.mp hr with rfl | hr'
    · -- the goroutine of `a` exists, so `a` is in the start log, now and later
      cases hs1 with
      | queryReturn _ _ hp =>
        have ha : a ∈ s0.started := hi.inflSub.subset (List.mem_map_of_mem (f := (·.1)) (phaseOf_mem hp))
        exact Trav.exec_induct (P := fun s' => a ∈ s'.started) h2 ha (fun _ _ _ _ hp hs => hs.started_mono a hp)
    · exact ih (hi.step hs1) h2 hr'

end Dht
