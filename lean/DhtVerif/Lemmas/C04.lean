/- The part of the query discipline that the structural invariant `Trav.Core` does not say. -/
import DhtVerif.Lemmas.TravCore
namespace Dht

/-- The query discipline in state `s`: at most `alpha` queries outstanding, and whatever waits in the frontier or was ever
started passed the node filter. -/
structure Trav.Disc (c : TravCfg) (s : Trav) : Prop where
  out_le : s.outstanding ≤ c.alpha
  unq_ok : ∀ n ∈ s.unq, c.nodeFilter n = true
  started_ok : ∀ a ∈ s.started, ∃ n : Cand, n.addr = a ∧ c.nodeFilter n = true

theorem Trav.Disc.addNodes {c : TravCfg} {s : Trav} (h : Trav.Disc c s) (ns : List Cand) :
    Trav.Disc c (s.addNodes c ns) := by
  refine Trav.addNodes_induct ns h (fun s n _ h => ?_)
  rcases Trav.addNode_cases c s n with ⟨_, e⟩ | ⟨_, hf, e⟩ <;> rw [e]
  · exact h
  · refine { h with unq_ok := fun x hx => ?_ }
    rcases SSet.mem_add_imp _ _ _ _ hx with rfl | hx
    · exact hf
    · exact h.unq_ok x hx

theorem Trav.Disc.startLoop {c : TravCfg} {s : Trav} (h : Trav.Disc c s) (fuel : Nat) :
    Trav.Disc c (Trav.startLoop c fuel s) := by
  refine Trav.startLoop_induct fuel h (fun s h hlt _ => ?_)
  rcases Trav.startQuery_cases c s with ⟨_, e⟩ | ⟨a, rest, hu, ⟨_, e⟩ | ⟨_, e⟩⟩ <;> rw [e]
  · exact h
  · exact { h with unq_ok := fun x hx => h.unq_ok x (hu ▸ List.mem_cons_of_mem _ hx) }
  · refine ⟨Nat.succ_le_of_lt hlt, fun x hx => h.unq_ok x (hu ▸ List.mem_cons_of_mem _ hx), fun x hx => ?_⟩
    rcases List.mem_append.mp hx with hx | hx
    · exact h.started_ok x hx
    · exact ⟨a, (List.mem_singleton.mp hx).symm, h.unq_ok a (hu ▸ List.mem_cons_self)⟩

theorem Trav.Disc.step {c : TravCfg} {s s' : Trav} {e : TravEv} (h : Trav.Disc c s)
    (hs : Trav.Step c s e s') : Trav.Disc c s' := by
  cases hs
  case addNodes ns => exact h.addNodes ns
  case eval t _ _ _ ht | evalUnlocked t _ _ _ ht => exact { (ht ▸ h.startLoop _ : Trav.Disc c t) with }
  case addReplyNodes | addReplyNodes6 => exact { h.addNodes _ with }
  case finish => exact { h with out_le := Nat.le_trans (Nat.sub_le _ _) h.out_le }
  -- the other events touch neither the counter nor the frontier nor the start log
  all_goals exact { h with }

theorem Trav.Disc.exec {c : TravCfg} {evs : List TravEv} {s : Trav} (h : Trav.exec c {} evs = some s) :
    Trav.Disc c s :=
  Trav.exec_induct h ⟨Nat.zero_le _, (fun _ h => nomatch h), (fun _ h => nomatch h)⟩ (fun _ _ _ _ hp hs => hp.step hs)

end Dht
