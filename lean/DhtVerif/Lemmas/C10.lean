/- Lemmas for C10: `be64` is injective below `2^64`; validity of a created token in terms of interval counters. -/
import DhtVerif.Model.Token
import DhtVerif.Lemmas.Basic
namespace Dht

theorem be64_length (n : Nat) : (be64 n).length = 8 := rfl

theorem div_eq_of_byte {a b k : Nat} (hd : (a / k % 256).toUInt8 = (b / k % 256).toUInt8)
    (hq : a / (k * 256) = b / (k * 256)) : a / k = b / k := by
  have hr := toUInt8_inj_of_lt (Nat.mod_lt _ (by decide)) (Nat.mod_lt _ (by decide)) hd
  rw [← Nat.div_div_eq_div_mul, ← Nat.div_div_eq_div_mul] at hq
  rw [← Nat.div_add_mod (a / k) 256, hq, hr, Nat.div_add_mod]

/-- `be64` is injective on numbers below `2^64`: both are 0 above the top digit, then peel the
digits off from the top (`omega` on all eight digits at once is two hundred times dearer). -/
theorem be64_inj {a b : Nat} (ha : a < 2 ^ 64) (hb : b < 2 ^ 64) (h : be64 a = be64 b) : a = b := by
  simp only [be64, List.cons.injEq, and_true] at h
  obtain ⟨h7, h6, h5, h4, h3, h2, h1, h0⟩ := h
  have q8 : a / (2 ^ 56 * 256) = b / (2 ^ 56 * 256) := by rw [Nat.div_eq_of_lt ha, Nat.div_eq_of_lt hb]
  have q1 : a / 2 ^ 8 = b / 2 ^ 8 :=
    div_eq_of_byte h1 <| div_eq_of_byte h2 <| div_eq_of_byte h3 <| div_eq_of_byte h4 <|
      div_eq_of_byte h5 <| div_eq_of_byte h6 <| div_eq_of_byte h7 q8
  have r0 := toUInt8_inj_of_lt (Nat.mod_lt _ (by decide)) (Nat.mod_lt _ (by decide)) h0
  omega

theorem sub_mul_div_interval (u d i : Nat) : (u - d * i) / i = u / i - d := by
  rw [Nat.mul_comm]; exact Nat.sub_mul_div u i d

theorem TokenServer.create_inj {H : List UInt8 → List UInt8} (hH : Function.Injective H) {s s' : TokenServer}
    {ip ip' : List UInt8} {t t' : Nat} (hl : ip.length = ip'.length) (h : s.create H ip t = s'.create H ip' t') :
    ip = ip' ∧ be64 (t / s.interval) = be64 (t' / s'.interval) ∧ s.secret = s'.secret := by
  have h1 := List.append_inj (hH h) (by simp [hl, be64_length])
  have h2 := List.append_inj h1.1 hl
  exact ⟨h2.1, h2.2, h1.2⟩

theorem TokenServer.valid_eq_true_iff (H : List UInt8 → List UInt8) (s : TokenServer) (tok ip : List UInt8) (now : Nat) :
    s.valid H tok ip now = true ↔ ∃ d, d ≤ s.maxDelta ∧ tok = s.create H ip (now - d * s.interval) := by
  unfold TokenServer.valid
  simp only [List.any_eq_true, List.mem_range, beq_iff_eq]
  exact exists_congr fun d => and_congr Nat.lt_succ_iff eq_comm

theorem TokenServer.valid_eq_false_iff (H : List UInt8 → List UInt8) (s : TokenServer) (tok ip : List UInt8) (now : Nat) :
    s.valid H tok ip now = false ↔ ∀ d, d ≤ s.maxDelta → tok ≠ s.create H ip (now - d * s.interval) := by
  rw [← Bool.not_eq_true, TokenServer.valid_eq_true_iff]
  simp

theorem TokenServer.valid_create_of (H : List UInt8 → List UInt8) (s : TokenServer) (ip : List UInt8) (issued used : Nat) {d : Nat}
    (hd : d ≤ s.maxDelta) (h : issued / s.interval = used / s.interval - d) :
    s.valid H (s.create H ip issued) ip used = true := by
  rw [TokenServer.valid_eq_true_iff]
  exact ⟨d, hd, by unfold TokenServer.create; rw [sub_mul_div_interval, h]⟩

theorem TokenServer.of_valid_create {H : List UInt8 → List UInt8} (hH : Function.Injective H) {s : TokenServer}
    {ip : List UInt8} {issued used : Nat} (hi : issued / s.interval < 2 ^ 64) (hu : used / s.interval < 2 ^ 64)
    (h : s.valid H (s.create H ip issued) ip used = true) :
    ∃ d, d ≤ s.maxDelta ∧ issued / s.interval = used / s.interval - d := by
  obtain ⟨d, hd, heq⟩ := (TokenServer.valid_eq_true_iff ..).mp h
  have h3 := (TokenServer.create_inj hH rfl heq).2.1
  rw [sub_mul_div_interval] at h3
  exact ⟨d, hd, be64_inj hi (by omega) h3⟩

end Dht
