/-
C13 — BEP 44 versions only move forward: seq, CAS and expiry.

All statements are about the executable model DhtVerif/Model/Bep44.lean, for all items, stores,
clocks, histories and schedules, with no bound on anything. `P : Params` carries the
cryptographic parameters (never used here beyond `check`/`target`) and `P.casSpec`, the CAS
rule in force; theorems that do not mention `P.casSpec` hold for BOTH rules (the literal
transcription of /repo's `CheckIncoming` as it was before its repair 3045e79, and the rule of the
property, which /repo implements now: `C13.checkIncoming_is_the_source`). The driver runs
`P.casSpec := casRuleComparesStoredSeq`.
-/
import DhtVerif.Lemmas.C13Conc
import DhtVerif.Props.STCheckIncoming
namespace Dht
open B44

/-- The codes the model answers with are BEP 44's 301 / 302 in the source tree. -/
theorem C13.codes_from_source :
    Gen.bep44ErrCasHashMismatched = 301 ∧ Gen.bep44ErrSequenceNumberLessThanCurrent = 302 ∧
    Gen.missing = [] := ⟨rfl, rfl, rfl⟩

/-- One event, any state (reachable or not), any target: the stored sequence number does not
go down, and the entry disappears only when it has expired at the current clock. Both rules. -/
theorem C13.seq_monotone_step (P : Params) (exp : Nat) (s : St) (ev : Ev) (t : Target) :
    SeqStep exp s.now s.store (s.step P exp ev).store t :=
  St.step_seqStep P exp s ev t

/-- Every sequential history of puts (any items, any targets, valid or not), gets (any target,
with or without `seq`) and clock advances: as long as the target stays stored (after every
prefix), its sequence number at the end is at least the one at the start. Both rules. -/
theorem C13.seq_monotone (P : Params) (exp : Nat) (t : Target) (evs : List Ev) (s : St)
    (hpresent : ∀ pre, pre <+: evs → ((s.run P exp pre).store t).isSome)
    (a b : Entry) (ha : s.store t = some a) (hb : (s.run P exp evs).store t = some b) :
    a.item.seq ≤ b.item.seq := by
  induction evs generalizing s a with
  | nil => cases ha.symm.trans hb; exact Int.le_refl _
  | cons ev rest ih =>
    obtain ⟨c, hc⟩ : ∃ c, (s.step P exp ev).store t = some c := Option.isSome_iff_exists.mp (hpresent [ev] (by simp))
    have hstep := St.step_seqStep P exp s ev t a ha
    rw [hc] at hstep
    exact Int.le_trans hstep
      (ih _ (fun pre hpre => hpresent (ev :: pre) (List.cons_prefix_cons.mpr ⟨rfl, hpre⟩)) c hc hb)

/-- Only a `get` on the target itself can remove it: over a history without such a get the
target stays stored and its sequence number only grows. Both rules. -/
theorem C13.seq_monotone_without_get (P : Params) (exp : Nat) (t : Target) (evs : List Ev) (s : St)
    (hnoget : ∀ a, Ev.get t a ∉ evs) (a : Entry) (ha : s.store t = some a) :
    ∃ b, (s.run P exp evs).store t = some b ∧ a.item.seq ≤ b.item.seq := by
  refine List.foldlRecOn evs (St.step P exp) (motive := fun s' => ∃ b, s'.store t = some b ∧ a.item.seq ≤ b.item.seq)
    ⟨a, ha, Int.le_refl _⟩ ?_
  rintro s' ⟨b, hb, hle⟩ ev hev
  rcases St.step_at P exp s' ev t with h | ⟨i, _, ht, _, hadm, h⟩ | ⟨q, _, hget, _⟩
  · exact ⟨b, h ▸ hb, hle⟩
  · exact ⟨_, h, Int.le_trans hle (checkIncomingWith_none_forward (hadm b (ht ▸ hb))).1⟩
  · exact absurd (hget ▸ hev) (hnoget q)

/-- A put (that passes `Check`) with a lower sequence number than the stored one, or the same
number and a different value, is answered 302 and the store is unchanged. Both rules. -/
theorem C13.reject_codes (P : Params) (now : Nat) (s : Store) (i : Item) (st : Entry)
    (hc : check P i = none) (hs : s (target P i) = some st)
    (hlow : i.seq < st.item.seq ∨ (i.seq = st.item.seq ∧ i.bv ≠ st.item.bv)) :
    Wrapper.put P now s i = (s, some Gen.bep44ErrSequenceNumberLessThanCurrent) :=
  Wrapper.put_of_incoming now hc hs (checkIncomingWith_lower hlow)

/-- The CAS rule of the property, for the model with `casSpec = true`: against a stored item
with a lower sequence number, a put carrying a CAS value (non-zero: the wire cannot tell 0 from
absent) different from the stored sequence number is answered 301 and the store is unchanged;
a put whose CAS equals the stored sequence number, or that carries none, is accepted. -/
theorem C13.cas_rule (P : Params) (hP : P.casSpec = true) (now : Nat) (s : Store) (i : Item) (st : Entry)
    (hc : check P i = none) (hs : s (target P i) = some st) (hhi : st.item.seq < i.seq) :
    (i.cas ≠ 0 ∧ i.cas ≠ st.item.seq → Wrapper.put P now s i = (s, some Gen.bep44ErrCasHashMismatched)) ∧
    (i.cas = 0 ∨ i.cas = st.item.seq → Wrapper.put P now s i = (s.set (target P i) ⟨i, now⟩, none)) := by
  have hci := checkIncomingSpec_higher hhi
  rw [← hP] at hci
  refine ⟨fun hcas => Wrapper.put_of_incoming now hc hs (hci.1 hcas), fun hcas => ?_⟩
  refine Wrapper.put_of_admits now hc fun st' hs' => ?_
  rw [hs] at hs'; cases hs'
  exact hci.2 hcas

/-- Both conditions violated, or any CAS mismatch outside the refresh case (same seq, same
value — nothing would move): the put is rejected with 301 or 302. `casSpec = true`. -/
theorem C13.cas_mismatch_rejected (P : Params) (hP : P.casSpec = true) (now : Nat) (s : Store) (i : Item) (st : Entry)
    (hc : check P i = none) (hs : s (target P i) = some st)
    (hcas : i.cas ≠ 0 ∧ i.cas ≠ st.item.seq) (hnr : ¬ (i.seq = st.item.seq ∧ i.bv = st.item.bv)) :
    Wrapper.put P now s i = (s, some Gen.bep44ErrCasHashMismatched) ∨
    Wrapper.put P now s i = (s, some Gen.bep44ErrSequenceNumberLessThanCurrent) := by
  by_cases hhi : st.item.seq < i.seq
  · exact Or.inl ((C13.cas_rule P hP now s i st hc hs hhi).1 hcas)
  · right
    apply C13.reject_codes P now s i st hc hs
    by_cases he : i.seq = st.item.seq
    · right; refine ⟨he, fun hb => hnr ⟨he, hb⟩⟩
    · left; omega

/-- The rule the CODE implements satisfies the CAS rule once `casRuleComparesStoredSeq` is
`true` (vacuous while it is `false`; see `cas_rule_literal_violates`). -/
theorem C13.cas_rule_code (h : casRuleComparesStoredSeq = true) (st i : Item) (hhi : st.seq < i.seq) :
    (i.cas ≠ 0 ∧ i.cas ≠ st.seq → checkIncoming st i = some Gen.bep44ErrCasHashMismatched) ∧
    (i.cas = 0 ∨ i.cas = st.seq → checkIncoming st i = none) := by
  unfold checkIncoming; rw [h]
  exact checkIncomingSpec_higher hhi

/-- KEPT COUNTEREXAMPLE (DESIGN.md F6): the literal transcription of /repo's `CheckIncoming` as it
was before its repair violates the CAS rule both ways — stored seq 5 (cas 0), put seq 6 cas 3 is accepted although
3 ≠ 5; stored seq 5 (cas 4), put seq 6 cas 5 is answered 301 although 5 is the stored
sequence number; and a put WITHOUT cas is answered 301 when the stored item carried one. -/
theorem C13.cas_rule_literal_violates :
    checkIncomingLit ⟨[1], none, [], [], 0, 5⟩ ⟨[2], none, [], [], 3, 6⟩ = none ∧
    checkIncomingLit ⟨[1], none, [], [], 4, 5⟩ ⟨[2], none, [], [], 5, 6⟩ = some Gen.bep44ErrCasHashMismatched ∧
    checkIncomingLit ⟨[1], none, [], [], 4, 5⟩ ⟨[2], none, [], [], 0, 6⟩ = some Gen.bep44ErrCasHashMismatched ∧
    checkIncomingSpec ⟨[1], none, [], [], 0, 5⟩ ⟨[2], none, [], [], 3, 6⟩ = some Gen.bep44ErrCasHashMismatched ∧
    checkIncomingSpec ⟨[1], none, [], [], 4, 5⟩ ⟨[2], none, [], [], 5, 6⟩ = none ∧
    checkIncomingSpec ⟨[1], none, [], [], 4, 5⟩ ⟨[2], none, [], [], 0, 6⟩ = none := by decide +kernel

/-- After an accepted put the item sits under its target, stamped with the clock of the put,
and a get before the expiry returns exactly it (store untouched). Both rules. -/
theorem C13.accepted_is_served (P : Params) (exp now now' : Nat) (s : Store) (i : Item)
    (h : (Wrapper.put P now s i).2 = none) (hf : now' < now + exp) :
    (Wrapper.put P now s i).1 (target P i) = some ⟨i, now⟩ ∧
    Wrapper.get exp now' (Wrapper.put P now s i).1 (target P i) = ((Wrapper.put P now s i).1, some i) ∧
    handleGet exp now' (Wrapper.put P now s i).1 (target P i) none = ((Wrapper.put P now s i).1, .full i) := by
  rcases Wrapper.put_cases P now s i with ⟨e, _, h'⟩ | ⟨st, e, _, _, _, h'⟩ | ⟨_, _, h'⟩
  · rw [h'] at h; cases h
  · rw [h'] at h; cases h
  · rw [h']
    have hs : (s.set (target P i) ⟨i, now⟩) (target P i) = some ⟨i, now⟩ := Store.set_same ..
    have hg := Wrapper.get_fresh (exp := exp) (now := now') hs hf
    exact ⟨hs, hg, by rw [handleGet_eq, hg]; rfl⟩

/-- …and it stays what gets return across any later history that contains no put to the same
target, as long as the clock has not reached the expiry. Both rules. -/
theorem C13.accepted_is_served_later (P : Params) (exp : Nat) (s : St) (i : Item) (created : Nat) (evs : List Ev)
    (hs : s.store (target P i) = some ⟨i, created⟩)
    (hnoput : ∀ j, Ev.put j ∈ evs → target P j ≠ target P i)
    (hf : (s.run P exp evs).now < created + exp) :
    (s.run P exp evs).store (target P i) = some ⟨i, created⟩ ∧
    Wrapper.get exp (s.run P exp evs).now (s.run P exp evs).store (target P i) = ((s.run P exp evs).store, some i) := by
  -- the clock only advances, so "not yet expired" at the end holds all along
  have key : (s.run P exp evs).now < created + exp → (s.run P exp evs).store (target P i) = some ⟨i, created⟩ := by
    refine List.foldlRecOn evs (St.step P exp)
      (motive := fun s' => s'.now < created + exp → s'.store (target P i) = some ⟨i, created⟩) (fun _ => hs) ?_
    intro s' hI ev hev hlt
    have h0 := hI (Nat.lt_of_le_of_lt (St.step_now_le P exp s' ev) hlt)
    rcases St.step_at P exp s' ev (target P i) with h | ⟨j, hj, ht, _⟩ | ⟨_, e, _, he, hx, _⟩
    · rw [h]; exact h0
    · exact absurd ht.symm (hnoput j (hj ▸ hev))
    · rw [h0] at he; cases he
      exact absurd (Nat.lt_of_le_of_lt (St.step_now_le P exp s' ev) hlt) (Nat.not_lt.mpr hx)
  exact ⟨key hf, Wrapper.get_fresh (key hf) hf⟩

/-- A get that names a sequence number is sent the value iff the stored one is newer;
otherwise it is told the stored sequence number only. -/
theorem C13.get_with_seq (exp now : Nat) (s : Store) (t : Target) (e : Entry) (a : Int)
    (hs : s t = some e) (hf : now < e.created + exp) :
    handleGet exp now s t (some a) = (s, if e.item.seq > a then .full e.item else .seqOnly e.item.seq) ∧
    ((∃ i, (handleGet exp now s t (some a)).2 = .full i) ↔ e.item.seq > a) := by
  have h1 : handleGet exp now s t (some a) = (s, if e.item.seq > a then .full e.item else .seqOnly e.item.seq) := by
    rw [handleGet_eq, Wrapper.get_fresh hs hf]
    show (s, if e.item.seq ≤ a then _ else _) = _
    by_cases h : e.item.seq ≤ a
    · rw [if_pos h, if_neg (Int.not_lt.mpr h)]
    · rw [if_neg h, if_pos (Int.not_le.mp h)]
  refine ⟨h1, ?_⟩
  rw [h1]
  by_cases h : e.item.seq > a <;> simp [h]

/-- Items older than the configured expiry are no longer served: the get answers "not found"
and removes the entry (through both the wrapper and the inbound `get`). -/
theorem C13.expired_not_served (exp now : Nat) (s : Store) (t : Target) (e : Entry) (a : Option Int)
    (hs : s t = some e) (hx : e.created + exp ≤ now) :
    Wrapper.get exp now s t = (s.del t, none) ∧ handleGet exp now s t a = (s.del t, .notFound) := by
  have hg := Wrapper.get_expired hs hx
  exact ⟨hg, by rw [handleGet_eq, hg]⟩

/-- Conversely, whatever a get serves (value or sequence number) is a stored entry younger
than the expiry. -/
theorem C13.served_is_fresh (exp now : Nat) (s : Store) (t : Target) (a : Option Int) :
    (∀ i, (handleGet exp now s t a).2 = .full i → ∃ e, s t = some e ∧ e.item = i ∧ now < e.created + exp) ∧
    (∀ q, (handleGet exp now s t a).2 = .seqOnly q → ∃ e, s t = some e ∧ e.item.seq = q ∧ now < e.created + exp) := by
  rcases get_cases exp now s t a with ⟨_, _, hh⟩ | ⟨e, _, _, _, hh⟩ | ⟨e, hs, hf, _, hh⟩
  · rw [hh]; exact ⟨fun i hi => (by cases hi), fun q hq => (by cases hq)⟩
  · rw [hh]; exact ⟨fun i hi => (by cases hi), fun q hq => (by cases hq)⟩
  · rw [hh]; exact ⟨fun i hi => ⟨e, hs, answer_full hi, hf⟩, fun q hq => ⟨e, hs, answer_seqOnly hq, hf⟩⟩

/-! ## Every interleaving of concurrent puts and gets on one store

`Sys.step P exp lock y tid now` is one call of the underlying store (Get, Put or Del) by thread
`tid` at clock `now`; a schedule is any list of such steps (`Sys.run` = `none` when a step is
not enabled). `lock = true` is "Wrapper.Put and Wrapper.Get hold one mutex from before their
first store call until they return"; the code's value is `putHoldsLock`, regenerated from
/repo/bep44/store.go. `ConcStep`: per target the stored
sequence number does not go down in a step, and an entry disappears only through the `Del`
of a get that found it expired. -/

/-- With the lock held: for EVERY number of threads, every operation list (puts of any items,
valid or not, gets of any targets), every initial store and every schedule (any interleaving,
any clock readings), at every point `y1` reached
 * the store equals the sequential execution (`replay` = `Wrapper.put` / `Wrapper.get` one
   after the other) of the operations that have taken effect, in the order `y1.log`; each of
   them is the operation of a distinct thread, and every finished thread is among them unless
   it ended before its first store call (its `Check` failed, which changes nothing);
 * every further enabled step is monotone per target (`ConcStep`).
Both CAS rules. -/
theorem C13.seq_monotone_concurrent (P : Params) (exp : Nat) (s0 : Store) (ops : List Op)
    (sched : List (Nat × Nat)) (y1 : Sys)
    (hrun : Sys.run P exp true (Sys.init P s0 ops) sched = some y1) :
    y1.store = replay P exp s0 y1.log ∧
    (∀ c, c ∈ y1.log → ops[c.tid]? = some c.op) ∧
    (y1.log.map (·.tid)).Nodup ∧
    (∀ j r, y1.threads j = .done r → (∃ c, c ∈ y1.log ∧ c.tid = j) ∨ (Sys.init P s0 ops).threads j = .done r) ∧
    (∀ tid now y2, y1.step P exp true tid now = some y2 → ConcStep exp y1 y2) := by
  have h := (LockInv.init P exp s0 ops).run hrun
  exact ⟨h.store_eq, h.log_ops, h.log_nodup, h.done_logged, fun _ _ _ hs => h.concStep hs⟩

/-- The same, for the code: it applies as soon as the regenerated fact says the lock is held. -/
theorem C13.seq_monotone_concurrent_code (hlock : putHoldsLock = true) (P : Params) (exp : Nat) (s0 : Store)
    (ops : List Op) (sched : List (Nat × Nat)) (y1 : Sys)
    (hrun : Sys.run P exp putHoldsLock (Sys.init P s0 ops) sched = some y1) :
    y1.store = replay P exp s0 y1.log ∧
    (∀ tid now y2, y1.step P exp putHoldsLock tid now = some y2 → ConcStep exp y1 y2) := by
  rw [hlock] at hrun ⊢
  have h := C13.seq_monotone_concurrent P exp s0 ops sched y1 hrun
  exact ⟨h.1, h.2.2.2.2⟩

/-- Witness parameters for the kept counterexamples: `H` is the identity, every signature
verifies. -/
def C13.wP (casSpec : Bool) : Params := ⟨fun b => b, fun _ _ _ => true, casSpec⟩
def C13.wItem (seq : Int) (v : UInt8) : Item := ⟨[v], some [7], [], [], 0, seq⟩
/-- The target `[7]` holds sequence number 0, stored at clock 0. -/
def C13.wStore : Store := Store.empty.set [7] ⟨C13.wItem 0 0, 0⟩

/-- KEPT COUNTEREXAMPLE (DESIGN.md F7), `lock = false`: two concurrent puts (seq 2 and seq 1)
to a target holding seq 0, schedule Get₀ Get₁ Put₀ Put₁ at store-call granularity: both are
answered ok, the store goes 0 → 2 → 1 — the lower sequence number overwrites the higher one.
Under either CAS rule. -/
theorem C13.lost_update_without_lock (casSpec : Bool) :
    ∃ y1 y2,
      Sys.run (C13.wP casSpec) 1000 false (Sys.init (C13.wP casSpec) C13.wStore [.put (C13.wItem 2 2), .put (C13.wItem 1 1)])
        [(0, 1), (1, 1), (0, 1)] = some y1 ∧
      y1.step (C13.wP casSpec) 1000 false 1 1 = some y2 ∧
      (y1.store [7]).map (·.item.seq) = some 2 ∧ (y2.store [7]).map (·.item.seq) = some 1 ∧
      y2.threads 0 = .done .ok ∧ y2.threads 1 = .done .ok ∧ ¬ ConcStep 1000 y1 y2 := by
  refine exists_some_of_any₂ (p := fun y1 y2 => (y1.store [7]).map (·.item.seq) = some 2 ∧
      (y2.store [7]).map (·.item.seq) = some 1 ∧ y2.threads 0 = .done .ok ∧ y2.threads 1 = .done .ok)
    (fun y1 y2 ⟨k1, k2, k3, k4⟩ => ⟨k1, k2, k3, k4, fun hc => ?_⟩) (by cases casSpec <;> decide +kernel)
  -- `ConcStep` would give 2 ≤ 1
  obtain ⟨a, ha, ha2⟩ := Option.map_eq_some_iff.mp k1
  obtain ⟨b, hb, hb1⟩ := Option.map_eq_some_iff.mp k2
  have := hc [7] a ha
  rw [hb] at this
  simp only [] at this
  omega

/-- KEPT COUNTEREXAMPLE (DESIGN.md F7), `lock = false`: the target holds an item stored at
clock 0 with expiry 10. At clock 10 a get reads it (expired), a concurrent put of seq 1 is
accepted and stored (created at 10, fresh until 20), then the get's `Del` removes the FRESH
item: the put was answered ok, yet nothing is stored. Under either CAS rule. -/
theorem C13.fresh_item_deleted_without_lock (casSpec : Bool) :
    ∃ y,
      Sys.run (C13.wP casSpec) 10 false (Sys.init (C13.wP casSpec) C13.wStore [.get [7], .put (C13.wItem 1 1)])
        [(0, 10), (1, 10), (1, 10), (0, 10)] = some y ∧
      y.store [7] = none ∧ y.threads 1 = .done .ok ∧ y.threads 0 = .done .notFound :=
  exists_some_of_any (by cases casSpec <;> decide +kernel)

/-- With the lock the two witness schedules above are not even enabled: the second thread's
first store call has to wait. -/
theorem C13.witness_schedules_blocked_by_lock (casSpec : Bool) :
    Sys.run (C13.wP casSpec) 1000 true (Sys.init (C13.wP casSpec) C13.wStore [.put (C13.wItem 2 2), .put (C13.wItem 1 1)])
        [(0, 1), (1, 1)] = none ∧
    Sys.run (C13.wP casSpec) 10 true (Sys.init (C13.wP casSpec) C13.wStore [.get [7], .put (C13.wItem 1 1)])
        [(0, 10), (1, 10)] = none := by
  constructor <;> apply Option.isNone_iff_eq_none.mp <;> cases casSpec <;> decide +kernel

example : ∃ y, Sys.run (C13.wP true) 1000 true (Sys.init (C13.wP true) C13.wStore [.put (C13.wItem 2 2), .put (C13.wItem 1 1)])
    [(0, 1), (0, 1), (1, 1)] = some y ∧ (y.store [7]).map (·.item.seq) = some 2 ∧
    y.threads 1 = .done (.err Gen.bep44ErrSequenceNumberLessThanCurrent) :=
  exists_some_of_any (by decide +kernel)

/-- A history on which the sequential theorems bite: 3 is accepted into the empty store, then 2 is refused (302),
the refresh of 3 is accepted, 5 with cas 3 is accepted under the property's rule. -/
example :
    let P := C13.wP true
    let s1 := (Wrapper.put P 0 Store.empty (C13.wItem 3 1)).1
    (Wrapper.put P 1 s1 (C13.wItem 2 2)).2 = some 302 ∧ (Wrapper.put P 1 s1 (C13.wItem 3 1)).2 = none ∧
    (Wrapper.put P 1 s1 ⟨[9], some [7], [], [], 3, 5⟩).2 = none ∧
    (Wrapper.put P 1 s1 ⟨[9], some [7], [], [], 4, 5⟩).2 = some 301 := by decide +kernel

/-- T1 by translation: the decision expression extracted from `CheckIncoming` in bep44/item.go,
interpreted with the atom table of Props/STCheckIncoming, IS the model's `checkIncoming`, for all items. -/
theorem C13.checkIncoming_is_the_source (stored incoming : B44.Item) :
    DExp.evalWith (ciCond stored incoming) ciRet Gen.treeCheckIncoming = some (B44.checkIncoming stored incoming) :=
  SourceTrees.checkIncoming stored incoming

end Dht
