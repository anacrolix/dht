/- What a step does to the peer store, and `filterPeers`. -/
import DhtVerif.Lemmas.Server
import DhtVerif.Lemmas.C17
namespace Dht

theorem processMsg_peers {c : SrvCfg} {mk : TokenFn} {s s' : Srv} {src : NAddr} {m : QMsg} {env : Env}
    {outs : List Out} {effs : List Effect} (h : processMsg c mk s src m env = some (s', outs, effs)) :
    s'.peers = (applyEffects s effs).peers ∧
    ∀ e, Effect.addPeer e ∈ effs →
      m.y = str "q" ∧ m.q = str "announce_peer" ∧ ∃ a, m.a = some a ∧
        validToken c mk s.ts.now src.ip a.token = true ∧ c.hasPeerStore = true ∧
        e = ⟨a.infoHash, src.ip, announcedPort src a⟩ := by
  rcases processMsg_eq_some h with ⟨rfl, _, rfl, _⟩ | ⟨_, hy, tbl', _, _, h1⟩ | ⟨_, _, _, _, _, _, _, rfl, _, rfl⟩
  · exact ⟨rfl, by simp⟩
  · split at h1
    · obtain ⟨rfl, _, rfl⟩ := h1
      exact ⟨rfl, by simp⟩
    · obtain ⟨rfl, _, he⟩ := h1
      refine ⟨applyEffects_peers_congr rfl, fun e hmem => ?_⟩
      rw [he] at hmem
      exact ⟨hy, dispatch_addPeer c mk _ src m env e hmem⟩
  · exact ⟨rfl, by simp⟩

theorem to16_length (ip x : List UInt8) (h : to16 ip = some x) : x.length = 16 := by
  revert h
  fun_cases to16 ip <;> intro h <;> cases h
  · rw [List.length_append, ‹ip.length = 4›]; rfl -- the prefix of twelve and four bytes
  · assumption -- sixteen bytes, as they are

theorem mem_filterPeers {srcIp : List UInt8} {want : List (List UInt8)} {all : List (List UInt8 × Int)}
    {v : List UInt8 × Int} (h : v ∈ filterPeers srcIp want all) :
    ∃ ip, (ip, v.2) ∈ all ∧ (v.1 = ip ∨ to4 ip = some v.1 ∨ to16 ip = some v.1) ∧
      ((v.1.length = 4 ∧ shouldReturnNodes want srcIp = true) ∨
       (v.1.length = 16 ∧ shouldReturnNodes6 want srcIp = true)) := by
  obtain ⟨⟨ip, port⟩, hmem, hf⟩ := List.mem_filterMap.mp h
  refine ⟨ip, ?_⟩
  dsimp only at hf
  by_cases h1 : (shouldReturnNodes want srcIp && ip.length == 4) = true
  · rw [if_pos h1] at hf; cases hf
    simp only [Bool.and_eq_true, beq_iff_eq] at h1
    exact ⟨hmem, .inl rfl, .inl ⟨h1.2, h1.1⟩⟩
  rw [if_neg h1] at hf
  by_cases h2 : (shouldReturnNodes6 want srcIp && ip.length == 16) = true
  · rw [if_pos h2] at hf; cases hf
    simp only [Bool.and_eq_true, beq_iff_eq] at h2
    exact ⟨hmem, .inl rfl, .inr ⟨h2.2, h2.1⟩⟩
  rw [if_neg h2] at hf
  by_cases h3 : (shouldReturnNodes want srcIp && (to4 ip).isSome) = true
  · rw [if_pos h3] at hf
    obtain ⟨x, hx, rfl⟩ := Option.map_eq_some_iff.mp hf
    exact ⟨hmem, .inr (.inl hx), .inl ⟨C17.to4_length ip x hx, (Bool.and_eq_true _ _ ▸ h3).1⟩⟩
  rw [if_neg h3] at hf
  by_cases h4 : (shouldReturnNodes6 want srcIp && (to16 ip).isSome) = true
  · rw [if_pos h4] at hf
    obtain ⟨x, hx, rfl⟩ := Option.map_eq_some_iff.mp hf
    exact ⟨hmem, .inr (.inr hx), .inr ⟨to16_length ip x hx, (Bool.and_eq_true _ _ ▸ h4).1⟩⟩
  · rw [if_neg h4] at hf; cases hf

theorem mem_peersFor (s : Srv) (ih : Id) (ip : List UInt8) (port : Int) (h : (ip, port) ∈ peersFor s ih) :
    ∃ e ∈ s.peers, e.ih = ih ∧ e.ip = ip ∧ e.port = port := by
  unfold peersFor at h
  simp only [List.mem_map, List.mem_filter, Prod.mk.injEq, beq_iff_eq] at h
  obtain ⟨e, ⟨he, hih⟩, hip, hp⟩ := h
  exact ⟨e, he, hih, hip, hp⟩

end Dht
