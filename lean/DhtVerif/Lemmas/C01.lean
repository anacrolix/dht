/- For C01: what the statements call well-formed (`QMsg.wf`, `Decoded.wf`, `Srv.Inv`), and the server step
seen as a step of the routing table (`TblState.step` on `tblEvOf`). -/
import DhtVerif.Lemmas.Server
import DhtVerif.Lemmas.C05
namespace Dht

def idxOf' (l : List String) (x : String) : Nat := l.findIdx (· == x)

/-- IDs inside a decoded message are 20 bytes (guaranteed by `krpc.ID`). -/
def QMsg.wf (m : QMsg) : Prop :=
  (∀ a, m.a = some a → a.id.length = 20) ∧ (∀ i, m.rid = some i → i.length = 20)

def Decoded.wf : Decoded → Prop
  | .msg m => m.wf
  | _ => True

def Srv.Inv (c : SrvCfg) (s : Srv) : Prop := Table.Inv c.tbl s.ts.table

/-- The table event an accepted, decoded message amounts to: a query updates the
table with the sender ID of its args dict, anything else (if it matches a
pending transaction) with `r.id` when it is a response. -/
def tblEvOf (src : NAddr) (m : QMsg) (ch : Option Node) : TblEv :=
  if m.y == str "q" then .recvQuery src (m.a.map (·.id)) m.ro ch
  else .recvResponse src (respId m) m.ro ch

theorem tblEvOf_q (src : NAddr) (m : QMsg) (ch : Option Node) (h : m.y = str "q") :
    tblEvOf src m ch = .recvQuery src (m.a.map (·.id)) m.ro ch := by
  simp [tblEvOf, h]

theorem tblEvOf_nq (src : NAddr) (m : QMsg) (ch : Option Node) (h : m.y ≠ str "q") :
    tblEvOf src m ch = .recvResponse src (respId m) m.ro ch := by
  simp [tblEvOf, h]

theorem tblEvOf_wf (src : NAddr) (m : QMsg) (ch : Option Node) (hm : m.wf) : (tblEvOf src m ch).wf := by
  fun_cases tblEvOf src m ch <;> intro i hi
  · obtain ⟨a, ha, rfl⟩ := Option.map_eq_some_iff.mp hi
    exact hm.1 a ha
  · revert hi
    fun_cases respId m <;> intro hi
    · exact hm.2 i hi
    · cases hi

theorem tblEvOf_withChoice (src : NAddr) (m : QMsg) (ch ch' : Option Node) :
    (tblEvOf src m ch).withChoice ch' = tblEvOf src m ch' := by
  unfold tblEvOf
  split <;> rfl

theorem processMsg_isSome (c : SrvCfg) (mk : TokenFn) (s : Srv) (src : NAddr) (m : QMsg) (env : Env)
    (h : (s.ts.step c.tbl (tblEvOf src m env.choice)).isSome = true) :
    (processMsg c mk s src m env).isSome = true := by
  rcases processMsg_cases c mk s src m env with ⟨h1, _⟩ | ⟨_, hy, h1⟩ | ⟨_, hy, q, txns', h1⟩ <;> rw [h1]
  · rfl
  · rw [handleQuery_eq, Option.isSome_map]
    rwa [tblEvOf_q src m _ hy, TblState.step, Option.isSome_map] at h
  · rw [Option.isSome_map]
    rwa [tblEvOf_nq src m _ hy, TblState.step, Option.isSome_map] at h

theorem processMsg_frame {c : SrvCfg} {mk : TokenFn} {s s' : Srv} {src : NAddr} {m : QMsg} {env : Env}
    {outs : List Out} {effs : List Effect} (h : processMsg c mk s src m env = some (s', outs, effs)) :
    s'.closed = s.closed ∧
    (s'.ts = s.ts ∨ ∃ out, s.ts.step c.tbl (tblEvOf src m env.choice) = some (s'.ts, out)) := by
  rcases processMsg_eq_some h with ⟨rfl, _⟩ | ⟨_, hy, tbl', o, hup, h1⟩ | ⟨_, hy, tbl', o, _, _, hup, rfl, _⟩
  · exact ⟨rfl, .inl rfl⟩
  · have hs : s'.closed = s.closed ∧ s'.ts = (s.withTable tbl').ts := by
      split at h1
      · rw [h1.1]; exact ⟨rfl, rfl⟩
      · rw [h1.1, applyEffects_closed, applyEffects_ts]; exact ⟨rfl, rfl⟩
    refine ⟨hs.1, .inr ⟨o, ?_⟩⟩
    rw [tblEvOf_q src m _ hy, TblState.step, hup, hs.2]; rfl
  · refine ⟨rfl, .inr ⟨o, ?_⟩⟩
    rw [tblEvOf_nq src m _ hy, TblState.step, hup]; rfl

end Dht
