/-
C14 — every query and traversal ends and cleans up after itself.

Property theorems, and in Part 3 the predicates they are stated with.

Part 1 is about the query machine of Model/Query.lean (waiter ∥ sender ∥ handleResponse ∥
environment). Every theorem quantifies over ALL reachable states, i.e. over all schedules of the
goroutines and all placements of replies, cancellations, write failures, `Close` and timer
firings, for every `NumTries`.

Part 2 ties the model to the source (T1): the statement order of `Query`, `transactionSender`,
`transactionQuerySender`, `writeToNode`, `Close` as regenerated by /verif/extract.

Part 3 is the traversal-ownership property over the regenerated control-flow graphs of every
function that starts a traversal.
-/
import DhtVerif.Model.Query
import DhtVerif.Model.Owner
import DhtVerif.Lemmas.C14
import DhtVerif.Lemmas.C14Owner
namespace Dht
open Qry

/-! ## Part 1 — the query machine -/

/-- At most `NumTries` calls of `send()` and at most that many `WriteTo` calls, in every
reachable state; `NumTries = 0` means the regenerated default. -/
theorem C14.sends_le_numTries (s : QState) (h : Reachable s) :
    s.writes ≤ s.sends ∧ s.sends ≤ s.maxSends := by
  have hi := reachable_inv h
  exact ⟨hi.writes_le, hi.sends_le⟩

/-- `maxSends` is the caller's `NumTries`, or the default when that is zero, and never changes. -/
theorem C14.maxSends_is_numTries (n : Nat) (c x : Bool) (es : List Ev) (s : QState)
    (h : run (init n c x) es = some s) :
    s.maxSends = (if n = 0 then Gen.defaultMaxQuerySends else n) :=
  run_induction (P := fun b => b.maxSends = effectiveTries n) (fun _ _ _ hp hs => (step_frame hs).1.trans hp) es rfl h

/-- THE QUERY RETURNS, part (a): a reachable state in which none of the query's own goroutines
or timers can move is terminal — `Query` has returned, the sender goroutine and the
`handleResponse` goroutine have exited. (Contrapositive: as long as anything of the query is
left, one of its own steps is enabled; it never waits for the environment.) -/
theorem C14.query_returns (s : QState) (h : Reachable s)
    (hstuck : ∀ e, e.progress = true → step s e = none) : s.terminal := by
  apply Classical.byContradiction
  intro hn
  obtain ⟨e, s', hp, hs⟩ := not_stuck (reachable_inv h) hn
  rw [hstuck e hp] at hs
  cases hs

/-- THE QUERY RETURNS, part (b): along ANY run from a reachable state — any interleaving with any
environment events — the number of steps taken by the query's goroutines and timers is bounded
by the measure of the state, which is `3·NumTries + 11` at the entry of `Query` (`measure_init`). Together with (a): every
maximal run in which enabled own steps are eventually taken is finite in own steps and ends in
the terminal state. -/
theorem C14.query_steps_bounded (s s' : QState) (h : Reachable s) (es : List Ev)
    (hr : run s es = some s') : (es.filter Ev.progress).length ≤ Qry.measure s := by
  have := run_progress_bound es (reachable_inv h) hr
  omega

theorem C14.measure_init (n : Nat) (c x : Bool) : Qry.measure (init n c x) = 3 * effectiveTries n + 11 := by
  simp [Qry.measure, senderWeight, waiterWeight, init]

/-- THE QUERY RETURNS, part (c): from every reachable state the query's own goroutines and
timers alone (no reply, no cancellation, no help) bring it to the terminal state. -/
theorem C14.query_can_always_finish (s : QState) (h : Reachable s) :
    ∃ es s', (∀ e ∈ es, e.progress = true) ∧ run s es = some s' ∧ s'.terminal :=
  finish_alone (reachable_inv h)

/-- When `Query` has returned its transaction is no longer pending. -/
theorem C14.txn_removed_on_return (s : QState) (h : Reachable s) (hr : s.wph = .returned) :
    s.pending = false :=
  (reachable_inv h).ret_pending hr

/-- `Query` gets past `<-sendErr` only after the sender goroutine has left its loop for good
(its error is in the channel; nothing but `close(sendErr)` remains): it can send nothing more. -/
theorem C14.sender_joined (s : QState) (h : Reachable s) (hr : s.wph = .joined ∨ s.wph = .returned) :
    s.sph = .pushed ∨ s.sph = .exited :=
  (reachable_inv h).joined_sender hr

/-- After `Query` returned no step of any goroutine changes the number of writes or sends. -/
theorem C14.no_send_after_return (s s' : QState) (h : Reachable s) (hr : s.wph = .returned) (e : Ev)
    (hs : step s e = some s') : s'.writes = s.writes ∧ s'.sends = s.sends ∧ s'.wph = .returned :=
  (step_frame hs).2.2 hr ((reachable_inv h).joined_sender (Or.inr hr))

/-- A time-out is reported only after all `NumTries` sends were made and one more resend delay
elapsed after the last of them (`NumTries` delays in all: the first send is immediate). -/
theorem C14.timeout_only_after_last_delay (s : QState) (h : Reachable s)
    (ho : s.outcome = some (.sendErr .timeout)) :
    s.sends = s.maxSends ∧ s.writes ≤ s.maxSends ∧ s.elapsed = s.maxSends := by
  have hi := reachable_inv h
  obtain ⟨h1, h2⟩ := hi.timeout_late (Or.inr ho)
  exact ⟨h1, by have := hi.writes_le; omega, h2⟩

/-- Once `Query` is past its select it has an outcome, and the outcome is a reply, the context
error, or the sender's error — never "neither reply nor error". -/
theorem C14.returns_with_result (s : QState) (h : Reachable s) (hr : s.wph = .returned) :
    ∃ o, s.outcome = some o ∧ o ≠ .emptyResult := by
  have hi := reachable_inv h
  have := hi.out_some (by simp [hr])
  cases ho : s.outcome with
  | none => simp [ho] at this
  | some o => exact ⟨o, rfl, fun he => hi.not_empty (by rw [ho, he])⟩

/-- A reply outcome means the matching reply really arrived: the transaction was popped by the
serve loop. -/
theorem C14.reply_only_if_arrived (s : QState) (h : Reachable s) (ho : s.outcome = some .reply) :
    s.pending = false :=
  ((reachable_inv h).reply_popped (Or.inr (Or.inr ho))).1

/-- The sender does not run before the transaction is registered. -/
theorem C14.registered_before_first_send (s : QState) (h : Reachable s) (hs : s.wph = .start) :
    s.sends = 0 ∧ s.writes = 0 ∧ s.sph = .notStarted := by
  have hi := reachable_inv h
  have := hi.start_clean hs
  exact ⟨this.2.2.2.2.2.1, this.2.2.2.2.2.2.1, hi.start_ns hs⟩

/-- AFTER CLOSE NOTHING IS SENT: once the closed flag is set and the sender is not already past
the closed check of `writeToNode` (phase `writing`: at most the one write in progress), no run
performs a `WriteTo`. -/
theorem C14.closed_server_sends_nothing (s s' : QState) (es : List Ev) (hc : s.closed = true)
    (hw : s.sph ≠ .writing) (hr : run s es = some s') : s'.writes = s.writes :=
  (run_induction (P := fun x => x.closed = true ∧ x.sph ≠ .writing ∧ x.writes = s.writes)
    (fun _ _ _ hp hs => have h := (step_frame hs).2.1 hp.1; ⟨h.1, (h.2.1 hp.2.1).1, (h.2.1 hp.2.1).2.trans hp.2.2⟩)
    es ⟨hc, hw, rfl⟩ hr).2.2

/-- A query started on a closed server writes nothing, whatever happens, and can only end
with an error. -/
theorem C14.closed_query_fails_without_sending (n : Nat) (x : Bool) (es : List Ev) (s : QState)
    (hr : run (init n true x) es = some s) : s.writes = 0 ∧ s.outcome ≠ some .reply :=
  ⟨C14.closed_server_sends_nothing (init n true x) s es rfl (by simp [init]) hr,
   (run_induction (P := fun x => x.closed = true ∧ x.replyInFlight = false ∧ x.replyChan = false ∧
        x.outcome ≠ some .reply)
      (fun _ _ _ hp hs => have h := (step_frame hs).2.1 hp.1; ⟨h.1, h.2.2 hp.2⟩) es (by simp [init]) hr).2.2.2⟩

/-- T3 soundness: a history the driver accepts (`QRY run …`) is a run of this machine ending in
a reachable terminal state with exactly the observed outcome — so all of the above applies to
every accepted history of the real server. -/
theorem C14.accepted_history_is_model_run (numTries : Nat) (c x : Bool) (evs : List Obs) (out : ObsOutcome)
    (h : acceptsRun numTries c x evs out = .ok ()) :
    ∃ s, Reachable s ∧ s.terminal ∧ s.outcome.map Outcome.obs = some out :=
  acceptsRun_sound numTries c x evs out h

/-! ## Part 2 — T1: the statement order the model transcribes (regenerated on every run) -/

/-- `transactionSender`: the loop `for sends < maxSends { select { time.After(delay): send, sends++,
error → return, delay = resendDelay() | ctx.Done: return } } return nil`, token for token. -/
theorem C14.sender_shape :
    Gen.evTransactionSender =
      ["for{", "select{", "case:", "time.After", "recv:time.After(delay)", "send", "sends++",
       "if:err != nil", "then{", "fmt.Errorf", "return", "}", "resendDelay", "case:", "ctx.Done",
       "recv:ctx.Done()", "ctx.Err", "return", "}", "}", "return"] ∧
    Gen.transactionSenderLoopCond = "sends < maxSends" ∧
    1 ≤ Gen.defaultMaxQuerySends :=
  ⟨rfl, rfl, by decide⟩

/-- `transactionQuerySender` after `transactionSender`: error → return it; else one more
`select { sendCtx.Done | time.After(s.resendDelay()) }` and always a non-nil error. -/
theorem C14.query_sender_shape :
    Gen.evTransactionQuerySender.drop 32 =
      ["transactionSender", "if:err != nil", "then{", "return", "}", "select{", "case:", "sendCtx.Done",
       "recv:sendCtx.Done()", "sendCtx.Err", "case:", "s.resendDelay", "time.After",
       "recv:time.After(s.resendDelay())", "}", "fmt.Errorf", "return"] ∧
    (Gen.evTransactionQuerySender.take 32).filter (· == "s.writeToNode") = ["s.writeToNode"] := by
  decide +kernel

/-- `Query`: default tries first; the transaction is added before the sender is started; the
sender goroutine pushes a non-nil result and closes the channel; after the three-way select come
`cancelSend()`, `<-sendErr`, `deleteTransaction`, and the only `return`. -/
theorem C14.query_shape :
    Gen.evQuery.take 4 = ["if:input.NumTries == 0", "then{", "set:input.NumTries", "}"] ∧
    (Gen.evQuery.dropWhile (· != "s.addTransaction")).take 20 =
      ["s.addTransaction", "s.mu.Unlock", "make", "pprof.Labels", "pprof.WithLabels", "context.WithCancel",
       "go", "func{", "s.makeQueryBytes", "s.transactionQuerySender", "if:err != nil", "then{",
       "send:sendErr", "}", "close", "}", "call}", "fmt.Sprintf", "expvars.Add", "select{"] ∧
    Gen.evQuery.dropWhile (· != "select{") =
      ["select{", "case:", "recv:replyChan", "set:ret.Reply", "case:", "ctx.Done", "recv:ctx.Done()",
       "ctx.Err", "set:ret.Err", "case:", "recv:sendErr", "set:ret.Err", "}", "cancelSend",
       "recv:sendErr", "s.mu.Lock", "s.deleteTransaction", "s.mu.Unlock", "return"] ∧
    (Gen.evQuery.filter (· == "return")).length = 1 ∧
    (Gen.evQuery.filter (· == "go")).length = 1 := by
  decide +kernel

/-- `writeToNode`: the closed test (with its `return`) comes first and is passed before the one
and only `socket.WriteTo` of the module; `Close` sets the flag under the lock. -/
theorem C14.write_gate_shape :
    Gen.evWriteToNode.take 10 =
      ["func{", "s.mu.RLock", "defer", "s.mu.RUnlock", "if:s.closed.IsSet()", "s.closed.IsSet",
       "then{", "errors.New", "return", "}"] ∧
    (Gen.evWriteToNode.dropWhile (· != "call}")).take 5 = ["call}", "if:err != nil", "then{", "return", "}"] ∧
    ((Gen.evWriteToNode.dropWhile (· != "call}")).filter (· == "s.socket.WriteTo")).length = 1 ∧
    (Gen.evWriteToNode.filter (· == "s.socket.WriteTo")).length = 1 ∧
    Gen.writeToSites = ["server.go:Server.writeToNode"] ∧
    Gen.evServerClose = ["s.mu.Lock", "defer", "s.mu.Unlock", "s.closed.Set", "go", "s.socket.Close"] := by
  decide +kernel

/-! ## Part 3 — every started traversal is stopped (T1, over `Gen.ownerCfg`) -/

open Own

/-- Return paths on which a started traversal is left running, each given as an explicit path of the
regenerated control-flow graph from the function entry to the `return`. On the current tree there is
none. The list is for defects like F8 and F9 of DESIGN.md §6, which it held before /repo was repaired
(e693d6b, 1e88baa):

* `BootstrapContext` [0,1,3,8,…,16,18]: `traversal.Start`, `TraversalStartingNodes` fails,
  `if err != nil { return }`;
* `getput.Get` [0,1,2,3,5] and `getput.Put` [0,1,2,3,4,5,7]: `startGetTraversal` hands back the
  operation together with the error, `if err != nil { return }`.

With the list empty `every_start_is_stopped_partial` is literally the full theorem
(`every_start_is_stopped` below applies), and `known_unstopped_are_real` holds trivially. While an
entry is listed whose path has been repaired, `known_unstopped_are_real` fails — stale exemptions
cannot linger. -/
def C14.knownUnstopped : List (String × List Nat) := []

def C14.isKnownUnstopped (fn : String) (node : Nat) : Bool :=
  C14.knownUnstopped.any (fun k => k.1 == fn && k.2.getLast? == some node)

/-- What "every start is stopped" means for one function: on EVERY path of its control-flow graph
(`PathTo`: any sequence of edges from the entry, loops and gotos included), at every `return` the
operation was never started, or has been stopped / has its stop deferred / was handed to a goroutine
that stops it on all of its own paths, or is returned to the caller (who is judged the same way,
with this function's exit states as its starting point); and no second operation is started
while the first is unstopped. `except` lists exempted return nodes. -/
def C14.StartsStopped (fn : String) (except : Nat → Bool) : Prop :=
  ∀ (i : Nat) (s : Abs) (n : Node), PathTo Own.ctx (cfgOf fn) topInit i s → n ∈ (cfgOf fn).nodes → n.id = i →
    nodeOk n s = true ∨ except i = true

/-- The decidable certificate: the extractor found every shape it needs; every function that
contains `traversal.Start` is analysed; every analysed graph is well-formed and its table is a
post-fixpoint; every violating (return, state) pair of the tables is exempted. -/
def C14.ownershipCertificate (exempt : String → Nat → Bool) : Bool :=
  Gen.missing == [] &&
  Gen.traversalStartSites.all (fun f => Gen.ownerJudged.contains f) &&
  Gen.ownerJudged.all certified &&
  allUnstopped.all (fun v => exempt v.1 v.2.1)

/-- Everything Part 3 takes from the regenerated graphs by evaluation, as ONE statement: the kernel then
computes the nested contexts (`Own.ctx`, three levels of graphs analysed inside graphs) and the tables once;
stated apart, each of the three theorems below would compute them again. -/
theorem C14.owner_facts :
    C14.ownershipCertificate C14.isKnownUnstopped = true ∧
    allUnstopped.map (fun v => (v.1, v.2.1, v.2.2.err)) =
      C14.knownUnstopped.map (fun k => (k.1, k.2.getLast?.getD 0, ErrK.nonNil)) ∧
    Gen.ownerJudged = ["announce.go:Server.AnnounceTraversal", "bootstrap.go:Server.BootstrapContext",
      "exts/getput/getput.go:Get", "exts/getput/getput.go:Put", "exts/getput/getput.go:startGetTraversal",
      "server.go:Server.refreshBucket"] ∧
    unstopped "announce.go:Server.AnnounceTraversal" = [] ∧
    unstopped "server.go:Server.refreshBucket" = [] ∧
    unstopped "exts/getput/getput.go:startGetTraversal" = [] ∧
    Own.ctx.subStops "announce.go:Server.AnnounceTraversal$1" = true ∧
    Own.ctx.subStops "server.go:Server.refreshBucket$1" = true ∧
    Own.ctx.subStops "bootstrap.go:Server.BootstrapContext$1" = false := by
  decide +kernel

/-- Every function that starts a traversal (or receives the operation from one that does) stops it on
every return path, except the return paths listed in `C14.knownUnstopped` (none on the current tree).
What is missing for the full statement is exactly the listed paths. -/
theorem C14.every_start_is_stopped_partial (fn : String) (h : fn ∈ Gen.ownerJudged) :
    C14.StartsStopped fn (C14.isKnownUnstopped fn) := by
  have cert := C14.owner_facts.1
  unfold C14.ownershipCertificate at cert
  simp only [Bool.and_eq_true, List.all_eq_true] at cert
  obtain ⟨⟨⟨_, _⟩, hcert⟩, hviol⟩ := cert
  intro i s n hp hn hid
  have hc := hcert fn h
  unfold certified at hc
  simp only [Bool.and_eq_true] at hc
  have hs : s ∈ (table fn).at n.id := by
    rw [hid]; exact closed_sound hc.2 hp
  have hall : (violationsIn (cfgOf fn) (table fn)).all (fun v => C14.isKnownUnstopped fn v.1) = true := by
    rw [List.all_eq_true]
    intro v hv
    have := hviol (fn, v.1, v.2) (by
      unfold allUnstopped
      rw [List.mem_flatMap]
      exact ⟨fn, h, by unfold unstopped; rw [List.mem_map]; exact ⟨v, hv, rfl⟩⟩)
    simpa using this
  have := violation_excluded hall hn hs
  rw [hid] at this
  exact this

/-- The full theorem, available as soon as the exemption list is empty. -/
theorem C14.every_start_is_stopped (hempty : C14.knownUnstopped = []) (fn : String) (h : fn ∈ Gen.ownerJudged) :
    C14.StartsStopped fn (fun _ => false) := by
  intro i s n hp hn hid
  rcases C14.every_start_is_stopped_partial fn h i s n hp hn hid with h1 | h1
  · exact Or.inl h1
  · simp [C14.isKnownUnstopped, hempty] at h1

/-- The full statement on the current tree: every function that starts a traversal stops it on every return path. -/
theorem C14.every_start_is_stopped_now (fn : String) (h : fn ∈ Gen.ownerJudged) :
    C14.StartsStopped fn (fun _ => false) := C14.every_start_is_stopped rfl fn h

/-- Each listed path is a real path of the regenerated graph from the function entry to a `return`,
and the traversal started on it is still running there (none is listed on the current tree). -/
theorem C14.known_unstopped_are_real :
    C14.knownUnstopped.all (fun k => isUnstoppedPath k.1 k.2) = true := by
  decide +kernel

/-- … and they are all there is: the analysis finds exactly the listed violating returns, each
reached with `err != nil` (before the repairs F8: node 18 of `BootstrapContext`; F9: node 5 of `Get`,
node 7 of `Put`; none on the current tree). -/
theorem C14.unstopped_exactly :
    allUnstopped.map (fun v => (v.1, v.2.1, v.2.2.err)) =
      C14.knownUnstopped.map (fun k => (k.1, k.2.getLast?.getD 0, ErrK.nonNil)) :=
  C14.owner_facts.2.1

/-- The owners the property names are all analysed, and those that are fine today are certified
without exemption: `AnnounceTraversal` (stops on the error path, hands the operation to a goroutine
that stops it), `refreshBucket` (deferred stop), `startGetTraversal` (hands the operation to its
caller). -/
theorem C14.clean_owners :
    Gen.ownerJudged = ["announce.go:Server.AnnounceTraversal", "bootstrap.go:Server.BootstrapContext",
      "exts/getput/getput.go:Get", "exts/getput/getput.go:Put", "exts/getput/getput.go:startGetTraversal",
      "server.go:Server.refreshBucket"] ∧
    unstopped "announce.go:Server.AnnounceTraversal" = [] ∧
    unstopped "server.go:Server.refreshBucket" = [] ∧
    unstopped "exts/getput/getput.go:startGetTraversal" = [] ∧
    Own.ctx.subStops "announce.go:Server.AnnounceTraversal$1" = true ∧
    Own.ctx.subStops "server.go:Server.refreshBucket$1" = true ∧
    Own.ctx.subStops "bootstrap.go:Server.BootstrapContext$1" = false :=
  C14.owner_facts.2.2

/-! ## Non-vacuity: concrete runs of the machine -/

/-- Silent peer, 2 tries: two sends one delay apart, one more delay, time-out, join, deregister. -/
example : (run (init 2 false false)
    [.register, .sendBegin, .sendOk, .delayElapses, .sendBegin, .sendOk, .delayElapses, .senderTimeout,
     .selSendErr, .cancelSend, .senderClose, .join, .deregister]).map
      (fun s => (decide s.terminal, s.outcome, s.writes, s.elapsed, s.pending)) =
    some (true, some (.sendErr .timeout), 2, 2, false) := by decide

/-- Reply after the first send: the reply wins, the sender is cancelled and joined. -/
example : (run (init 3 false false)
    [.register, .sendBegin, .sendOk, .replyInjected, .serveReply, .replyDeliver, .selReply, .cancelSend,
     .senderCtxDone, .join, .deregister, .senderClose]).map
      (fun s => (decide s.terminal, s.outcome, s.writes, s.pending)) =
    some (true, some .reply, 1, false) := by decide

/-- Context cancelled while waiting for the second send. -/
example : (run (init 2 false false)
    [.register, .sendBegin, .sendOk, .ctxCancel, .selCtx, .cancelSend, .senderCtxDone, .senderClose, .join,
     .deregister]).map (fun s => (decide s.terminal, s.outcome, s.writes)) =
    some (true, some .ctxErr, 1) := by decide

/-- The second write fails. -/
example : (run (init 4 false false)
    [.register, .sendBegin, .sendOk, .delayElapses, .sendBegin, .sendFail, .senderClose, .selSendErr,
     .cancelSend, .join, .deregister]).map (fun s => (decide s.terminal, s.outcome, s.writes, s.sends)) =
    some (true, some (.sendErr .write), 2, 2) := by decide

/-- Query on a closed server: error, nothing written. -/
example : (run (init 0 true false)
    [.register, .sendClosedErr, .selSendErr, .cancelSend, .senderClose, .join, .deregister]).map
      (fun s => (decide s.terminal, s.outcome, s.writes)) =
    some (true, some (.sendErr .closed), 0) := by decide

/-- `Close` in the middle: the write that already passed the closed check may still happen, the next is refused. -/
example : (run (init 2 false false)
    [.register, .sendBegin, .serverClosed, .sendOk, .delayElapses, .sendClosedErr, .selSendErr, .cancelSend,
     .senderClose, .join, .deregister]).map (fun s => (decide s.terminal, s.outcome, s.writes)) =
    some (true, some (.sendErr .closed), 1) := by decide

/-- A send is not enabled before its delay elapsed, nor a third send with `NumTries = 2`. -/
example : run (init 2 false false) [.register, .sendBegin, .sendOk, .sendBegin] = none := by decide
example : run (init 2 false false)
    [.register, .sendBegin, .sendOk, .delayElapses, .sendBegin, .sendOk, .delayElapses, .sendBegin] = none := by decide

/-- The driver's acceptance check on observable histories: accepts what can happen, rejects a third
datagram with two tries, a reply outcome without a reply, and a time-out before the last send. -/
example : acceptsRunStr 2 false false [.send, .send] .timeout = "accept" := by decide +kernel
example : acceptsRunStr 2 false false [.send, .reply] .reply = "accept" := by decide +kernel
example : acceptsRunStr 2 false false [.send, .send, .send] .timeout = "reject:event:2" := by decide +kernel
example : acceptsRunStr 2 false false [.send] .reply = "reject:outcome" := by decide +kernel
example : acceptsRunStr 2 false false [.send] .timeout = "reject:outcome" := by decide +kernel
example : acceptsRunStr 1 true false [] .closedErr = "accept" := by decide +kernel
example : acceptsRunStr 1 true false [.send] .closedErr = "reject:event:0" := by decide +kernel

def idxS (l : List String) (x : String) : Nat := l.findIdx (· == x)

/-- T1: "leaves no goroutine behind when stopped" rests on the traversal's stop waiter never missing the
wake-up of the last query: it tests `outstanding`, fetches the condition channel and only then unlocks
and sleeps on it, and every query completion decrements and broadcasts under the lock. -/
theorem C14.stop_waiter_source_order :
    idxS Gen.evStop "if:op.outstanding == 0" < idxS Gen.evStop "op.cond.Signaled" ∧
    Gen.evStop.getD (idxS Gen.evStop "op.cond.Signaled" + 1) "" = "op.mu.Unlock" ∧
    Gen.evStop.getD (idxS Gen.evStop "op.cond.Signaled" + 2) "" = "recv:cond" ∧
    idxS Gen.evStop "op.stopped.Set" < Gen.evStop.length ∧
    idxS Gen.evStartQuery "op.mu.Lock" < idxS Gen.evStartQuery "op.outstanding--" ∧
    Gen.evStartQuery.getD (idxS Gen.evStartQuery "op.outstanding--" + 1) "" = "op.cond.Broadcast" := by
  decide +kernel

end Dht
