/-
C20 — outbound traffic never exceeds the configured send budget.

Units (see Model/Rate.lean): time in ns; the rate is `p/q` tokens per second; `U = q·10⁹` units
make one token and `p` units accrue per ns; `C = burst·U` is the bucket size. Instants at which
granted tokens are covered are exact, in scaled time (`p` ticks per ns), so `p·t` is the scaled
form of the instant `t` ns. All statements are inequalities between integers; dividing by `U`
gives the usual reading, e.g. `U·n ≤ C + p·(t − t0)` is `n ≤ burst + rate·(t − t0)`.

Histories: `BHist.run` over `adv dt | allow | reserve | giveBack` (one bucket, its clock, the log
of grants); `GSt.run` over `tick dt | call c | wake i` (the gate `writeToNode` in front of that
bucket: calls with any flags and socket fate, waiters waking at any later time). The clock of a
history never steps back; `golang.org/x/time/rate` is ASSUMED to compute `Bucket` (differential
test) and to be driven with non-decreasing instants.

Scope of the theorems: finite positive rate (`0 < p`); `rate.Inf` has no budget to exceed and
`limit == 0` is covered by `zero_rate_bound`.
-/
import DhtVerif.Model.Rate
import DhtVerif.Lemmas.C20Gate
namespace Dht

/-- `grants − givebacks + tokens(t) ≤ burst + rate·(t − t0)` along every history (grants counted
when taken, tokens possibly negative while reservations are outstanding). -/
theorem C20.bucket_bound (p q burst t0 : Nat) (hp : 0 < p) (h : List BEv) :
    let s := (BHist.init p q burst t0).run h
    (((q * nsPerSec) * s.grants.length : Nat) : Int) + s.b.tokensAt s.now + ((p * t0 : Nat) : Int)
      ≤ ((burst * (q * nsPerSec) : Nat) : Int) + ((p * s.now : Nat) : Int) + (((q * nsPerSec) * s.returned : Nat) : Int) := by
  intro s
  obtain ⟨w, l⟩ : s.WF p q burst t0 ∧ s.Led t0 := BHist.led_run hp h
  have i := l.budget
  have ht := Bucket.tokensAt_le w.last_le
  simp only [Bucket.unit, Bucket.cap, w.hp, w.hq, w.hburst] at i ht
  omega

/-- The stored token count never exceeds the bucket size by more than the one token a give-back
adds, and what `advance` makes available never exceeds the bucket size. -/
theorem C20.tokens_never_exceed_burst (p q burst t0 : Nat) (hp : 0 < p) (h : List BEv) (t : Nat) :
    let s := (BHist.init p q burst t0).run h
    s.b.tokensAt t ≤ ((burst * (q * nsPerSec) : Nat) : Int) ∧
    s.b.tokens ≤ ((burst * (q * nsPerSec) : Nat) : Int) + ((q * nsPerSec : Nat) : Int) := by
  intro s
  obtain ⟨w, c⟩ : s.WF p q burst t0 ∧ s.Capped := BHist.capped_run hp h
  simp only [BHist.Capped, Bucket.unit, Bucket.cap, w.hq, w.hburst] at c
  refine ⟨?_, c⟩
  simpa only [Bucket.unit, Bucket.cap, w.hq, w.hburst] using s.b.tokensAt_le_cap t

/-- Prefix windows: the tokens usable by now (reservations count from the instant they are
covered), net of those given back, number at most `burst + rate·(now − t0)`. Every prefix of a
history is a history, so this bounds every window `[t0, t]`. -/
theorem C20.prefix_bound (p q burst t0 : Nat) (hp : 0 < p) (h : List BEv) :
    let s := (BHist.init p q burst t0).run h
    (q * nsPerSec) * s.effective (p * s.now) + p * t0
      ≤ burst * (q * nsPerSec) + p * s.now + (q * nsPerSec) * s.returned := by
  intro s
  obtain ⟨w, l⟩ : s.WF p q burst t0 ∧ s.Led t0 := BHist.led_run hp h
  have := l.prefix_bound
  rwa [Bucket.unit, Bucket.cap, Bucket.unit, w.hp, w.hq, w.hburst] at this

/-- ANY window, in exact scaled time: the grants covered within `[A, B]` number at most
`burst + (B − A)/p·rate` plus the tokens given back after failed socket writes. Without
give-backs this is the plain token-bucket bound for every window. -/
theorem C20.window_bound (p q burst t0 : Nat) (hp : 0 < p) (h : List BEv) (A B : Nat) (hAB : A ≤ B) :
    let s := (BHist.init p q burst t0).run h
    (q * nsPerSec) * s.inWindow A B ≤ burst * (q * nsPerSec) + (B - A) + (q * nsPerSec) * s.returned := by
  intro s
  obtain ⟨w, i0⟩ : s.WF p q burst t0 ∧ s.Window A := BHist.window_run hp A h
  have := PG.window hAB i0.pg
  unfold BHist.inWindow
  simp only [Bucket.unit, Bucket.cap, w.hq, w.hburst] at this
  omega

/-- The same for a window `[a, b]` given in nanoseconds: at most `burst + rate·(b − a)` grants
(plus give-backs) are covered within it. -/
theorem C20.window_bound_ns (p q burst t0 : Nat) (hp : 0 < p) (h : List BEv) (a b : Nat) (hab : a ≤ b) :
    let s := (BHist.init p q burst t0).run h
    (q * nsPerSec) * s.inWindow (p * a) (p * b) ≤ burst * (q * nsPerSec) + p * (b - a) + (q * nsPerSec) * s.returned := by
  intro s
  have := C20.window_bound p q burst t0 hp h (p * a) (p * b) (Nat.mul_le_mul_left p hab)
  rw [Nat.mul_sub]
  exact this

/-- Why give-backs appear in `window_bound`: `AllowN(now, -1)` while a reservation is pending lets
the next reservation share the pending one's instant. Burst 1, 8 tokens/s: three reservations at
t = 0 with a give-back before the third are covered at 0, 125 ms and 125 ms. (In `writeToNode` the
first send's socket write failed; the datagrams of the other two leave together.) -/
example : ((BHist.init 8 1 1 0).run [.reserve, .reserve, .giveBack, .reserve]).grants.map (· / 8)
    = [125000000, 125000000, 0] := by decide +kernel

/-- `limit == 0`: rate.go counts the `burst` field down and up; grants net of give-backs never
exceed the initial burst. -/
theorem C20.zero_rate_bound (q burst t0 : Nat) (h : List BEv) :
    let s := (BHist.init 0 q burst t0).run h
    s.grants.length + s.b.burst = burst + s.returned := by
  intro s
  suffices H : ∀ (h : List BEv) (s0 : BHist), s0.b.inf = false → s0.b.p = 0 →
      s0.grants.length + s0.b.burst = burst + s0.returned →
      (s0.run h).grants.length + (s0.run h).b.burst = burst + (s0.run h).returned from
    H h _ rfl rfl (Nat.zero_add _)
  intro h
  induction h with
  | nil => intro s0 _ _ i; exact i
  | cons e h ih =>
    intro s0 hinf hp0 i
    have key : (s0.step e).b.inf = false ∧ (s0.step e).b.p = 0 ∧
        (s0.step e).grants.length + (s0.step e).b.burst = burst + (s0.step e).returned := by
      cases e with
      | adv dt => exact ⟨hinf, hp0, i⟩
      | allow | reserve =>
        by_cases hb : 1 ≤ s0.b.burst
        · simp [BHist.step, Bucket.allow, Bucket.reserve, hinf, hp0, hb]; omega
        · simp [BHist.step, Bucket.allow, Bucket.reserve, hinf, hp0, hb, i]
      | giveBack => simp [BHist.step, Bucket.giveBack, hinf, hp0]; omega
    exact ih (s0.step e) key.1 key.2.1 key.2.2

/-- Every rated datagram is preceded by its own grant. Along every history of the gate the grants
the bucket made are, one for one, those consumed by the rated datagrams written, those held by
senders still waiting, and those of sends whose socket write failed; each rated datagram left
no earlier than the instant its token was covered; the bucket's own history is a bucket history
(so all bounds above apply to it). Unrated sends take nothing (`unrated_sends_leave_bucket_alone`). -/
theorem C20.rated_write_needs_grant (p q burst t0 : Nat) (hp : 0 < p) (h : List GEv) :
    let s := (GSt.init p q burst t0).run h
    s.h.grants.Perm (s.ratedOut.map (·.act) ++ s.waiting.map (·.act) ++ s.failed) ∧
    (∀ d ∈ s.ratedOut, d.act ≤ p * d.time ∧ d.time ≤ s.h.now) ∧
    (∀ w ∈ s.waiting, w.act ≤ p * w.notBefore) ∧
    s.h.returned ≤ s.failed.length ∧
    ∃ bh : List BEv, s.h = (BHist.init p q burst t0).run bh := by
  intro s
  have i : s.Inv p q burst t0 := GSt.Inv.run hp h (GSt.Inv.init p q burst t0)
  exact ⟨i.acct.perm, i.acct.out_ok, i.acct.wait_ok, i.acct.ret_le, i.sim⟩

/-- Hence, for every history of the gate (floods, queries, waiters, socket failures, in any order
and at any times), the rated datagrams written by now number at most `burst + rate·(now − t0)`:
the bound for every prefix window `[t0, t]`, which is what the harness checks on the real server. -/
theorem C20.rated_datagrams_prefix_bound (p q burst t0 : Nat) (hp : 0 < p) (h : List GEv) :
    let s := (GSt.init p q burst t0).run h
    (q * nsPerSec) * s.ratedOut.length + p * t0 ≤ burst * (q * nsPerSec) + p * s.h.now := by
  intro s
  have i : s.Inv p q burst t0 := GSt.Inv.run hp h (GSt.Inv.init p q burst t0)
  obtain ⟨bh, hbh⟩ := i.sim
  have pb := C20.prefix_bound p q burst t0 hp bh
  simp only at pb
  rw [← hbh] at pb
  -- effective grants ≥ rated datagrams + failed sends ≥ rated datagrams + give-backs
  have hc := List.Perm.countP_eq (fun g => decide (g ≤ p * s.h.now)) i.acct.perm
  have hA : (s.ratedOut.map (·.act)).countP (fun g => decide (g ≤ p * s.h.now)) = s.ratedOut.length :=
    countP_map_le_eq_length _ _ _ fun d hd =>
      Nat.le_trans (i.acct.out_ok d hd).1 (Nat.mul_le_mul_left _ (i.acct.out_ok d hd).2)
  have hF : s.failed.countP (fun g => decide (g ≤ p * s.h.now)) = s.failed.length :=
    List.countP_eq_length.mpr fun a ha => decide_eq_true (i.acct.failed_ok a ha)
  unfold BHist.effective at pb
  rw [hc, List.countP_append, List.countP_append, hA, hF] at pb
  have h1 : (q * nsPerSec) * s.h.returned ≤ (q * nsPerSec) * s.failed.length := Nat.mul_le_mul_left _ i.acct.ret_le
  simp only [Nat.mul_add] at pb
  omega

/-- An unrated send never touches the limiter. -/
theorem C20.unrated_sends_leave_bucket_alone (closed blocked wait : Bool) (m : Option Nat) (b : Bucket) (now : Nat) :
    (sendGate closed blocked false wait m b now).2 = b := by
  cases closed <;> cases blocked <;> simp [sendGate]

/-- A closed server or a blocklisted destination: nothing is written, nothing is taken. -/
theorem C20.closed_or_blocked_sends_nothing (closed blocked rate wait : Bool) (m : Option Nat) (b : Bucket) (now : Nat)
    (h : closed = true ∨ blocked = true) :
    sendGate closed blocked rate wait m b now = (if closed then .errClosed else .errBlocked, b) := by
  cases closed <;> cases blocked <;> simp_all [sendGate]

/-- No budget, no send (not waiting): with less than one token in the bucket a rated send is
refused with "rate limit exceeded" and the bucket is untouched; in a gate history the state does
not change at all — nothing is written, nothing is granted. -/
theorem C20.no_budget_no_send (b : Bucket) (now : Nat) (m : Option Nat) (hinf : b.inf = false) (hp : 0 < b.p)
    (hl : b.last ≤ now) (hempty : b.tokensAt now < (b.unit : Int)) :
    sendGate false false true false m b now = (.errRateLimited, b) := by
  rw [sendGate_allow hinf hp hl, if_neg (by omega)]

theorem C20.no_budget_no_send_history (s : GSt) (wok : Bool) (hinf : s.h.b.inf = false) (hp : 0 < s.h.b.p)
    (hl : s.h.b.last ≤ s.h.now) (hempty : s.h.b.tokensAt s.h.now < (s.h.b.unit : Int)) :
    s.step (.call ⟨false, false, true, false, wok⟩) = s := by
  simp only [GSt.step, C20.no_budget_no_send s.h.b s.h.now none hinf hp hl hempty]

/-- No budget, waiting (`Wait`): the token is taken on credit and the send is told to wait until
`t`, which is the first nanosecond at which the missing amount has accrued — neither earlier nor
later. In a gate history such a sender can only `wake` when the clock has reached `t`
(`GSt.step`), and `rated_write_needs_grant` shows its datagram leaves no earlier than the exact
instant its token is covered. -/
theorem C20.no_budget_wait_until (b : Bucket) (now : Nat) (hinf : b.inf = false) (hp : 0 < b.p)
    (hburst : 1 ≤ b.burst) (hempty : b.tokensAt now < (b.unit : Int)) :
    ∃ t b', sendGate false false true true none b now = (.waitsUntil t, b') ∧ now < t ∧
      t = now + ceilDiv (b.deficit now) b.p ∧
      ((b.unit : Int) - b.tokensAt now ≤ ((b.p * (t - now) : Nat) : Int)) ∧
      (∀ t', now ≤ t' → (b.unit : Int) - b.tokensAt now ≤ ((b.p * (t' - now) : Nat) : Int) → t ≤ t') ∧
      b'.tokens = b.tokensAt now - (b.unit : Int) := by
  have hdef : ((b.deficit now : Nat) : Int) = (b.unit : Int) - b.tokensAt now := by unfold Bucket.deficit; omega
  have hc := le_mul_ceilDiv (b.deficit now) b.p hp
  have hpos : 0 < ceilDiv (b.deficit now) b.p := Nat.pos_of_ne_zero fun h0 => by rw [h0] at hc; omega
  refine ⟨now + ceilDiv (b.deficit now) b.p, { b with tokens := b.tokensAt now - (b.unit : Int), last := now },
    ?_, by omega, rfl, ?_, ?_, rfl⟩
  · rw [sendGate_wait hinf hp, if_pos hburst, if_neg (by omega)]
  · rw [Nat.add_sub_cancel_left]; omega
  · intro t' hle hcov
    have : b.deficit now ≤ b.p * (t' - now) := by omega
    have := ceilDiv_least _ _ _ hp this
    omega

/-- With burst 0 nothing rated is ever sent, waiting or not. -/
theorem C20.zero_burst_sends_nothing (b : Bucket) (now : Nat) (wait : Bool) (hinf : b.inf = false) (hp : 0 < b.p)
    (hl : b.last ≤ now) (hburst : b.burst = 0) :
    (sendGate false false true wait none b now).1 = .errRateLimited ∨
    (sendGate false false true wait none b now).1 = .errWait := by
  cases wait
  · left; rw [sendGate_allow hinf hp hl, if_neg (by omega)]
  · right; rw [sendGate_wait hinf hp, if_neg (by omega)]

/-- Responses and errors are always rated; errors never wait; responses wait iff `WaitToReply`. -/
theorem C20.replies_errors_always_rated (waitToReply : Bool) :
    (replyPolicy waitToReply).rate = true ∧ (replyPolicy waitToReply).wait = waitToReply ∧
    errorPolicy.rate = true ∧ errorPolicy.wait = false := ⟨rfl, rfl, rfl, rfl⟩

/-- The query policy, exhaustively: a send is exempt from rating exactly when the caller opted
out (`NotAny`, or `NotFirst` for the first successful send); the first send waits unless
`NoWaitFirst`, retries wait only with `WaitOnRetries`. -/
theorem C20.policy_table (first : Bool) (f : QRL) :
    ((queryPolicy first f).rate = false ↔ (f.notAny = true ∨ (first = true ∧ f.notFirst = true))) ∧
    ((queryPolicy first f).wait = true ↔
      ((first = true ∧ f.noWaitFirst = false) ∨ (first = false ∧ f.waitOnRetries = true))) := by
  cases first <;> simp [queryPolicy] <;> cases f.notAny <;> simp

/-- The default flags (what the server's own lookups, pings and announces use): every send rated,
the first waits, retries do not. -/
theorem C20.default_policy :
    queryPolicy true ⟨false, false, false, false⟩ = ⟨true, true⟩ ∧
    queryPolicy false ⟨false, false, false, false⟩ = ⟨false, true⟩ := by decide

/-! ## Ties to the source (T1), re-decided on the regenerated facts on every run -/

/-- The extractor found every source shape it looks for. -/
theorem C20.src_facts_complete : Gen.missing = [] := by decide +kernel

/-- `writeToNode` is the only place in the module that calls a method named `WriteTo`. -/
theorem C20.src_single_write_site : Flow.onlyWriteSite = true := by decide +kernel

/-- Every syntactic path through `writeToNode` obeys the limiter discipline; the three parts are
stated one by one below. One sweep over the paths: the three predicates share most of their work. -/
theorem C20.src_gate_paths_disciplined : Flow.allPaths (fun p =>
    Flow.limiterDominates p && Flow.refusalReturns p && Flow.giveBackOnError p) = true := by decide +kernel

theorem Flow.allPaths_and {f g : List String → Bool} (h : Flow.allPaths (fun p => f p && g p) = true) :
    Flow.allPaths f = true ∧ Flow.allPaths g = true := by
  unfold Flow.allPaths at *
  split at h
  · simp only [List.all_eq_true, Bool.and_eq_true] at h ⊢
    exact ⟨fun p hp => (h p hp).1, fun p hp => (h p hp).2⟩
  · cases h

/-- In `writeToNode`, on every path that reaches `s.socket.WriteTo`: if `rate` then
`limiterWait` (when `wait`) returned without error, or `limiterAllow` returned true,
before the write; if `!rate` the limiter is not touched. -/
theorem C20.src_limiter_dominates_write : Flow.allPaths Flow.limiterDominates = true :=
  (Flow.allPaths_and (Flow.allPaths_and C20.src_gate_paths_disciplined).1).1

/-- A refused `Allow` or a failed `Wait` returns before the socket write. -/
theorem C20.src_refusal_returns : Flow.allPaths Flow.refusalReturns = true :=
  (Flow.allPaths_and (Flow.allPaths_and C20.src_gate_paths_disciplined).1).2

/-- A rated send whose socket write fails calls `limiterGiveBack` (the give-back); a path has at
most one socket write and takes at most one token. -/
theorem C20.src_give_back_on_error : Flow.allPaths Flow.giveBackOnError = true :=
  (Flow.allPaths_and C20.src_gate_paths_disciplined).2

/-- `writeToNode` is called by `reply` with `(s.config.WaitToReply, true)`, by `sendError` with
`(false, true)`, by `transactionQuerySender` with the two policy literals, and by nobody else. -/
theorem C20.src_callers : Flow.callersKnown = true := by decide +kernel

/-- The two function literals in `transactionQuerySender` compute `queryPolicy`, for all 32
combinations of flags and first/retry. -/
theorem C20.src_query_policy : Flow.policyMatchesSource = true := by decide +kernel

/-- The process-wide `DefaultSendLimiter` has a finite positive rate and room for at least one
token, i.e. lies in the regime of the theorems above. -/
theorem C20.src_default_limiter : 0 < Gen.defaultSendRate ∧ 1 ≤ Gen.defaultSendBurst := by decide +kernel

/-! ## Kept counterexample: instants out of order

The theorems are about histories whose clock never steps back. `rate.Limiter` accepts an older
instant by moving its `last` back, and then credits the interval up to the next caller's instant
a second time. 1 token/s, burst 1: grants at 0 s and 1 s are within budget (2 ≤ 1 + 1·1); a caller
arriving with the stale instant 0 s is refused, but the caller after it, again at 1 s, is granted a
third token: 3 > 1 + 1·1. Before its repair (5c6597a) /repo read the instant (`time.Now()` inside
`Allow`/`Wait`) before the limiter's lock was taken, by one goroutine per reply and per query, and by
every server that shares the limiter, so instants did reach it out of order, and the harness exhibited
the excess on the real server (violation "rated datagrams exceed burst + rate*t"). /repo now serialises
clock read and limiter call under one mutex (`C20.src_reservation_instants` below), which restores the
hypothesis. -/
example :
    let b0 := Bucket.new 1 1 1 0
    let r1 := b0.allow 0
    let r2 := r1.2.allow 1000000000
    let r3 := r2.2.allow 0
    let r4 := r3.2.allow 1000000000
    (r1.1, r2.1, r3.1, r4.1) = (true, true, false, true) := by decide +kernel

/-! ## Non-vacuity -/

/-- All three modes reach the socket write in the source. -/
example : Flow.somePath (fun p => p.contains "F:rate" && Flow.has p Flow.sockWrite) = true ∧
    Flow.somePath (fun p => p.contains "T:rate" && p.contains "T:wait" && Flow.has p Flow.sockWrite) = true ∧
    Flow.somePath (fun p => p.contains "T:rate" && p.contains "F:wait" && Flow.has p Flow.sockWrite) = true ∧
    Flow.somePath (fun p => Flow.has p Flow.limGive) = true := by
  decide +kernel

/-- 5/s, burst 3: three sends pass at once, the fourth is refused, one passes again 200 ms later. -/
example : (((BHist.init 5 1 3 0).run [.allow, .allow, .allow, .allow, .adv 200000000, .allow, .allow]).grants.length) = 4 := by
  decide +kernel

/-- The bound is tight: burst + rate·t grants are reachable (50/s, burst 1, 1 s → 51). -/
example : (((BHist.init 50 1 1 0).run ((List.replicate 50 [BEv.allow, .adv 20000000]).flatten ++ [.allow])).grants.length) = 51 := by
  decide +kernel

/-- A gate history with a refused reply, a waiting query, an unrated send and a failed write. -/
example :
    let s := (GSt.init 50 1 1 0).run [.call ⟨false, false, true, false, true⟩, .call ⟨false, false, true, false, true⟩,
      .call ⟨false, false, true, true, true⟩, .call ⟨false, false, false, false, true⟩, .tick 20000000, .wake 0,
      .tick 20000000, .call ⟨false, false, true, false, false⟩, .call ⟨false, false, true, false, true⟩]
    (s.ratedOut.map (·.time), s.out.length, s.failed.length, s.h.returned, s.waiting.length) =
      ([40000000, 20000000, 0], 4, 1, 1, 0) := by
  decide +kernel

/-- `no_budget_wait_until` on a concrete bucket: 3/s, drained at 0, asked at 100 ms: wait until
⌈333 333 333.3⌉ ns. -/
example : (sendGate false false true true none ((Bucket.new 3 1 1 0).allow 0).2 100000000).1 = .waitsUntil 333333334 := by
  decide +kernel

def idxL (l : List String) (x : String) : Nat := l.findIdx (· == x)

/-- T1: the only place a limiter reservation is made is `limiterWait`, with the instant read under
`sendLimiterMu`; the only place one is abandoned is its `cancel` closure, which re-reads the clock under
the same lock (`CancelAt(time.Now())`, never the reservation's own stale instant: handing the token back
at a stale instant moves the limiter's clock backwards and the interval in between is credited twice -
the out-of-order-instant counterexample of this file), and only when no token has been handed back
since the reservation was made (repair F14: x/time/rate derives what a cancellation restores from the
limiter's last event, which `AllowN(now, -1)` moves back to now; `C20.giveback_then_cancel_breaks_bound`
in Props/C20Cancel is the kept counterexample). -/
theorem C20.src_reservation_instants :
    Gen.limiterReserveSites = ["ratelimit_serial.go:limiterWait|now"] ∧
    Gen.limiterCancelSites = ["ratelimit_serial.go:limiterWait|time.Now()"] ∧
    idxL Gen.evLimiterWait "sendLimiterMu.Lock" < idxL Gen.evLimiterWait "l.ReserveN" ∧
    Gen.evLimiterWait.getD (idxL Gen.evLimiterWait "l.ReserveN" - 1) "" = "time.Now" ∧
    Gen.evLimiterWait.getD (idxL Gen.evLimiterWait "l.ReserveN" + 1) "" = "sendLimiterMu.Unlock" ∧
    Gen.evLimiterWait.getD (idxL Gen.evLimiterWait "r.CancelAt" - 1) "" = "time.Now" ∧
    Gen.evLimiterWait.getD (idxL Gen.evLimiterWait "r.CancelAt" - 2) "" = "then{" ∧
    Gen.evLimiterWait.getD (idxL Gen.evLimiterWait "r.CancelAt" - 3) "" = "if:giveBacks == sendLimiterGiveBacks" ∧
    Gen.evLimiterWait.getD (idxL Gen.evLimiterWait "r.CancelAt" - 4) "" = "sendLimiterMu.Lock" ∧
    Gen.evLimiterWait.getD (idxL Gen.evLimiterWait "r.CancelAt" + 1) "" = "}" ∧
    Gen.evLimiterWait.getD (idxL Gen.evLimiterWait "r.CancelAt" + 2) "" = "sendLimiterMu.Unlock" ∧
    Gen.limiterGiveBackCounts = ["ratelimit_serial.go:limiterGiveBack"] :=
  ⟨rfl, rfl, by decide +kernel⟩

end Dht
