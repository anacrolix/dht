/-
Lemmas for C15: the strict parser inverts the canonical encoder.
-/
import DhtVerif.Model.Bencode
namespace Dht
namespace Benc

theorem digit_toNat (n : Nat) : (digit n).toNat = 48 + n % 10 := by
  have := Nat.mod_lt n (by decide : 0 < 10)
  simp only [digit, Nat.toUInt8, UInt8.toNat_ofNat']
  exact Nat.mod_eq_of_lt (by omega)

theorem digit_isDigit (n : Nat) : isDigit (digit n) = true := by
  simp [isDigit, digit_toNat]
  omega

theorem digit_val (n : Nat) : (digit n).toNat - 48 = n % 10 := by
  rw [digit_toNat, Nat.add_sub_cancel_left]

theorem natDigits_lt {n : Nat} (h : n < 10) : natDigits n = [digit n] := by
  rw [natDigits]; simp [h]

theorem natDigits_ge {n : Nat} (h : ¬ n < 10) : natDigits n = natDigits (n / 10) ++ [digit n] := by
  rw [natDigits]; simp [h]

theorem natDigits_all_digits (n : Nat) : ∀ c ∈ natDigits n, isDigit c = true := by
  induction n using natDigits.induct with
  | case1 x h => -- `x < 10`: one digit
    rw [natDigits_lt h]
    intro c hc
    simp at hc
    rw [hc]; exact digit_isDigit x
  | case2 x h ih => -- otherwise: the digits of `x / 10`, then the last one
    rw [natDigits_ge h]
    intro c hc
    simp at hc
    cases hc with
    | inl hc => exact ih c hc
    | inr hc => rw [hc]; exact digit_isDigit x

theorem digitsToNat_append (a : List UInt8) (d : UInt8) :
    digitsToNat (a ++ [d]) = digitsToNat a * 10 + (d.toNat - 48) := by
  simp [digitsToNat, List.foldl_append]

theorem digitsToNat_natDigits (n : Nat) : digitsToNat (natDigits n) = n := by
  induction n using natDigits.induct with
  | case1 x h => -- `x < 10`
    rw [natDigits_lt h]
    simp [digitsToNat, digit_val]
    omega
  | case2 x h ih => -- `10 ≤ x`
    rw [natDigits_ge h, digitsToNat_append, ih, digit_val]
    omega

theorem natDigits_head (n : Nat) : ∃ c t, natDigits n = c :: t ∧ isDigit c = true ∧ (0 < n → c ≠ cZero) ∧
    canonDigits (c :: t) = true := by
  induction n using natDigits.induct with
  | case1 x h => -- `x < 10`
    refine ⟨digit x, [], natDigits_lt h, digit_isDigit x, fun hx hc => ?_, rfl⟩
    have : 48 + x = 48 := by rw [← Nat.mod_eq_of_lt h, ← digit_toNat, hc]; rfl
    omega
  | case2 x h ih => -- `10 ≤ x`
    obtain ⟨c, t, hct, hd, hc, _⟩ := ih
    have hc := hc (by omega)
    refine ⟨c, t ++ [digit x], by rw [natDigits_ge h, hct]; rfl, hd, fun _ => hc, ?_⟩
    cases t <;> simp [canonDigits, hc]

theorem canonDigits_natDigits (n : Nat) : canonDigits (natDigits n) = true := by
  obtain ⟨c, t, h, _, _, hc⟩ := natDigits_head n
  rw [h]; exact hc

theorem negDigitsOk_natDigits (n : Nat) : negDigitsOk (natDigits (n + 1)) = true := by
  obtain ⟨c, t, h, _, hc, _⟩ := natDigits_head (n + 1)
  rw [h]; simp [negDigitsOk, hc (by omega)]

theorem spanDigits_append (ds : List UInt8) (x : UInt8) (r : List UInt8)
    (hds : ∀ c ∈ ds, isDigit c = true) (hx : isDigit x = false) :
    spanDigits (ds ++ x :: r) = (ds, x :: r) := by
  induction ds with
  | nil => simp [spanDigits, hx]
  | cons c t ih =>
    have hc : isDigit c = true := hds c (by simp)
    have := ih (fun c' hc' => hds c' (by simp [hc']))
    simp [spanDigits, hc, this]

theorem isDigit_cE : isDigit cE = false := by decide
theorem isDigit_cColon : isDigit cColon = false := by decide
theorem isDigit_cMinus : isDigit cMinus = false := by decide

theorem decInt_intDigits (i : Int) (rest : List UInt8) :
    decInt (intDigits i ++ cE :: rest) = some (.int i, rest) := by
  cases i with
  | ofNat n =>
    obtain ⟨c, t, hct, hcd, _⟩ := natDigits_head n
    have hcm : c ≠ cMinus := by
      intro h; rw [h] at hcd; simp [isDigit_cMinus] at hcd
    have hsp := spanDigits_append (natDigits n) cE rest (natDigits_all_digits n) isDigit_cE
    simp only [intDigits]
    rw [hct] at hsp ⊢
    simp only [List.cons_append, decInt, hcm, if_false]
    simp only [List.cons_append] at hsp
    rw [hsp]
    simp only [← hct, canonDigits_natDigits, digitsToNat_natDigits, if_true]
    rfl
  | negSucc n =>
    have hsp := spanDigits_append (natDigits (n + 1)) cE rest (natDigits_all_digits _) isDigit_cE
    simp only [intDigits, List.cons_append, decInt, if_true]
    rw [hsp]
    simp only [negDigitsOk_natDigits, digitsToNat_natDigits, if_true]
    rfl

theorem decBytes_encBytes (b rest : List UInt8) :
    decBytes (encBytes b ++ rest) = some (b, rest) := by
  have hsp := spanDigits_append (natDigits b.length) cColon (b ++ rest) (natDigits_all_digits _) isDigit_cColon
  unfold decBytes encBytes
  simp only [List.append_assoc, List.cons_append]
  rw [hsp]
  simp [canonDigits_natDigits, digitsToNat_natDigits]

theorem encBytes_head (b : List UInt8) : ∃ c t, encBytes b = c :: t ∧ isDigit c = true := by
  obtain ⟨c, t, h, hd, _⟩ := natDigits_head b.length
  exact ⟨c, t ++ cColon :: b, by rw [encBytes, h]; rfl, hd⟩

theorem encBytes_length_pos (b : List UInt8) : 0 < (encBytes b).length := by
  obtain ⟨c, t, h, _⟩ := encBytes_head b
  rw [h]; simp

theorem digit_ne {c : UInt8} (h : isDigit c = true) : c ≠ cI ∧ c ≠ cL ∧ c ≠ cD ∧ c ≠ cE := by
  refine ⟨?_, ?_, ?_, ?_⟩ <;> (intro hc; rw [hc] at h; revert h; decide)

/-- No encoding starts with the terminator `e`, on which `decList` and `decDict` stop. -/
theorem enc_head (v : BV) : ∃ c t, enc v = c :: t ∧ c ≠ cE := by
  cases v with
  | int i => exact ⟨cI, intDigits i ++ [cE], by simp [enc], by decide⟩
  | bytes b =>
    obtain ⟨c, t, h, hd⟩ := encBytes_head b
    exact ⟨c, t, by simp [enc, h], (digit_ne hd).2.2.2⟩
  | list l => exact ⟨cL, encList l, by simp [enc], by decide⟩
  | dict d => exact ⟨cD, encDict d, by simp [enc], by decide⟩

theorem enc_length_pos (v : BV) : 0 < (enc v).length := by
  obtain ⟨c, t, h, _⟩ := enc_head v
  rw [h]; simp

theorem encList_length_pos (l : List BV) : 0 < (encList l).length := by
  cases l with
  | nil => simp [encList]
  | cons v vs => simp [encList]; have := enc_length_pos v; omega

theorem encDict_length_pos (d : List (List UInt8 × BV)) : 0 < (encDict d).length := by
  cases d with
  | nil => simp [encDict]
  | cons kv kvs =>
    obtain ⟨k, v⟩ := kv
    simp [encDict]; have := encBytes_length_pos k; omega

theorem bytesLt_cons {x y : UInt8} {as bs : List UInt8} :
    bytesLt (x :: as) (y :: bs) = true ↔ x.toNat < y.toNat ∨ (x = y ∧ bytesLt as bs = true) := by
  by_cases h : x.toNat < y.toNat
  · simp [bytesLt, h]
  · by_cases h' : x = y <;> simp [bytesLt, h, h']

theorem bytesLt_irrefl (k : List UInt8) : bytesLt k k = false := by
  induction k with
  | nil => rfl
  | cons a t ih => simp [bytesLt, ih]

theorem bytesLt_trans : ∀ (a b c : List UInt8), bytesLt a b = true → bytesLt b c = true → bytesLt a c = true
  | _, b, [], _, h2 => by cases b <;> simp [bytesLt] at h2
  | [], _, _ :: _, _, _ => rfl
  | _ :: _, [], _ :: _, h1, _ => by simp [bytesLt] at h1
  | x :: as, y :: bs, z :: cs, h1, h2 => by
    rw [bytesLt_cons] at h1 h2 ⊢
    rcases h1 with h1 | ⟨rfl, h1⟩ <;> rcases h2 with h2 | ⟨rfl, h2⟩
    · exact .inl (Nat.lt_trans h1 h2)
    · exact .inl h1
    · exact .inl h2
    · exact .inr ⟨rfl, bytesLt_trans as bs cs h1 h2⟩

theorem keysSorted_cons {k : List UInt8} {ks : List (List UInt8)} :
    keysSorted (k :: ks) = true ↔ (∀ x ∈ ks, bytesLt k x = true) ∧ keysSorted ks = true := by
  simp only [keysSorted, Bool.and_eq_true, List.all_eq_true]

theorem wf_dict {d : List (List UInt8 × BV)} :
    wf (.dict d) = true ↔ keysSorted (d.map Prod.fst) = true ∧ wfVals d = true := by
  simp only [wf, Bool.and_eq_true]

theorem wfList_cons {v : BV} {vs : List BV} : wfList (v :: vs) = true ↔ wf v = true ∧ wfList vs = true :=
  Bool.and_eq_true_iff

theorem wfVals_cons {k : List UInt8} {v : BV} {kvs : List (List UInt8 × BV)} :
    wfVals ((k, v) :: kvs) = true ↔ wf v = true ∧ wfVals kvs = true :=
  Bool.and_eq_true_iff

/-- Each key greater than the one before it (what the parser checks). -/
def keysChain : Option (List UInt8) → List (List UInt8) → Bool
  | _, [] => true
  | prev, k :: ks => keyAfter prev k && keysChain (some k) ks

theorem keysChain_sorted (k : List UInt8) (ks : List (List UInt8)) (h : keysChain (some k) ks = true) :
    keysSorted (k :: ks) = true := by
  induction ks generalizing k with
  | nil => rfl
  | cons k' t ih =>
    simp only [keysChain, keyAfter, Bool.and_eq_true] at h
    have ht := ih k' h.2
    refine keysSorted_cons.mpr ⟨fun x hx => ?_, ht⟩
    rcases List.mem_cons.mp hx with rfl | hx
    · exact h.1
    · exact bytesLt_trans k k' x h.1 ((keysSorted_cons.mp ht).1 x hx)

theorem keysChain_none_sorted (ks : List (List UInt8)) (h : keysChain none ks = true) :
    keysSorted ks = true := by
  cases ks with
  | nil => rfl
  | cons k t => exact keysChain_sorted k t h

mutual
  theorem dec_enc_fuel : ∀ (v : BV), wf v = true → ∀ (rest : List UInt8) (f : Nat),
      (enc v).length ≤ f → dec f (enc v ++ rest) = some (v, rest)
    | v, _, _, 0, hf => absurd hf (by have := enc_length_pos v; omega)
    | .int i, _, rest, f + 1, _ => by
      simp only [enc, List.cons_append, dec, if_true, List.append_assoc]
      exact decInt_intDigits i rest
    | .bytes b, _, rest, f + 1, _ => by
      obtain ⟨c, t, h, hd⟩ := encBytes_head b
      have hne := digit_ne hd
      have hb := decBytes_encBytes b rest
      simp only [enc]
      rw [h] at hb ⊢
      simp only [List.cons_append] at hb ⊢
      simp only [dec, hne.1, hne.2.1, hne.2.2.1, if_false, hd, if_true, hb]
    | .list l, h, rest, f + 1, hf => by
      -- by computation `hf` reads `(encList l).length + 1 ≤ f + 1` and `h` reads `wfList l = true`
      have := decList_enc_fuel l h rest f (Nat.le_of_succ_le_succ hf)
      simp only [enc, List.cons_append, dec, this]
      simp [cL, cI]
    | .dict d, h, rest, f + 1, hf => by
      have hd := wf_dict.mp h
      have := decDict_enc_fuel d hd.2 hd.1 none (fun _ _ => rfl) rest f (Nat.le_of_succ_le_succ hf)
      simp only [enc, List.cons_append, dec, this]
      simp [cL, cI, cD]
  theorem decList_enc_fuel : ∀ (l : List BV), wfList l = true → ∀ (rest : List UInt8) (f : Nat),
      (encList l).length ≤ f → decList f (encList l ++ rest) = some (l, rest)
    | l, _, _, 0, hf => absurd hf (by have := encList_length_pos l; omega)
    | [], _, rest, f + 1, _ => by simp [encList, decList]
    | v :: vs, h, rest, f + 1, hf => by
      have hw := wfList_cons.mp h
      have h2 := encList_length_pos vs
      have hv := dec_enc_fuel v hw.1 (encList vs ++ rest) f (by simp [encList] at hf; omega)
      have hl := decList_enc_fuel vs hw.2 rest f (by have := enc_length_pos v; simp [encList] at hf; omega)
      obtain ⟨c, t, hct, hce⟩ := enc_head v
      simp only [encList, List.append_assoc]
      rw [hct] at hv ⊢
      simp only [List.cons_append] at hv ⊢
      simp only [decList, hce, if_false, hv, hl]
  theorem decDict_enc_fuel : ∀ (d : List (List UInt8 × BV)), wfVals d = true →
      keysSorted (d.map Prod.fst) = true → ∀ (prev : Option (List UInt8)),
      (∀ k ∈ d.map Prod.fst, keyAfter prev k = true) → ∀ (rest : List UInt8) (f : Nat),
      (encDict d).length ≤ f → decDict f prev (encDict d ++ rest) = some (d, rest)
    | d, _, _, _, _, _, 0, hf => absurd hf (by have := encDict_length_pos d; omega)
    | [], _, _, prev, _, rest, f + 1, _ => by simp [encDict, decDict]
    | (k, v) :: kvs, h, hs, prev, hp, rest, f + 1, hf => by
      have hw := wfVals_cons.mp h
      have hs' := keysSorted_cons.mp hs
      have h0 := encBytes_length_pos k
      have h2 := encDict_length_pos kvs
      have hv := dec_enc_fuel v hw.1 (encDict kvs ++ rest) f (by simp [encDict] at hf; omega)
      have hd := decDict_enc_fuel kvs hw.2 hs'.2 (some k) hs'.1 rest f
        (by have := enc_length_pos v; simp [encDict] at hf; omega)
      have hk := decBytes_encBytes k (enc v ++ (encDict kvs ++ rest))
      have hpk : keyAfter prev k = true := hp k (by simp)
      obtain ⟨c, t, hct, hcd⟩ := encBytes_head k
      have hne := digit_ne hcd
      simp only [encDict, List.append_assoc]
      rw [hct] at hk ⊢
      simp only [List.cons_append] at hk ⊢
      simp only [decDict, hne.2.2.2, if_false, hcd, if_true, hk, hpk, hv, hd]
end

end Benc
end Dht
